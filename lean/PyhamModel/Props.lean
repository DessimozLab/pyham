/-
  THE PROPERTY THEOREMS.  Only statements that formalise the properties C01 … C20 of
  /verif/properties.jsonl live here; a proof is a reference to the lemma files or a few lines that combine
  theorems of those files (a theorem that serves several properties stands with the theorems it is read
  with: renumbering and family locality, C11, under C14; the stack-machine theorems of C01–C04, C11, C20 in the last
  section).
  `PyhamModel/Audit.lean` prints the axioms of each of them; the checker parses that output.

  Conventions
  * `H : Ham` is a loaded analysis (model of `pyham.Ham` after `__init__`), `H.WFc` the part of the
    well-formedness predicate `Ham.wf` (property C02) the comparison theorems need.
  * taxa are child-index lists nearest-first: `a <:+ d` = "a is an ancestor-or-self of d".
  * "for every loaded consistent input" is reached through `loaded_consistent` (Capstone.lean: a consistent
    dataset loads, family by family the loaded HOG `Realises` its history (C03), and the analysis is well formed).
-/
import PyhamModel.Lemmas.Leaves
import PyhamModel.Lemmas.Registry
import PyhamModel.Lemmas.Compose
import PyhamModel.Lemmas.Lateral
import PyhamModel.Lemmas.Balance
import PyhamModel.Lemmas.ExportLemmas
import PyhamModel.Lemmas.LookupLemmas
import PyhamModel.Lemmas.NavLemmas
import PyhamModel.Lemmas.SessionLemmas
import PyhamModel.Lemmas.TreeLemmas
import PyhamModel.Lemmas.Faults
import PyhamModel.Lemmas.Explicit
import PyhamModel.Lemmas.RealisesLemmas
import PyhamModel.Lemmas.Refinement
import PyhamModel.Lemmas.Additivity
import PyhamModel.Lemmas.FilterLemmas
import PyhamModel.Lemmas.NamingLemmas
import PyhamModel.Lemmas.Spelling
import PyhamModel.Lemmas.Annotations
import PyhamModel.Lemmas.Capstone
import PyhamModel.Lemmas.CapstoneWF
import PyhamModel.Lemmas.Clustering
import PyhamModel.Lemmas.NewickLemmas
import PyhamModel.Lemmas.AggLemmas
import PyhamModel.Lemmas.RoundtripLoaded
import PyhamModel.Lemmas.Declared
import PyhamModel.Lemmas.NestedPg
import PyhamModel.Lemmas.NestedPgCx
import PyhamModel.Lemmas.Locality
import PyhamModel.Lemmas.OmaLemmas
import PyhamModel.Lemmas.Listing
import PyhamModel.Lemmas.Corollaries
import PyhamModel.Lemmas.SameHierarchy
import PyhamModel.Lemmas.CheckerSound
import PyhamModel.Lemmas.LineageCount
import PyhamModel.Lemmas.FilterIdentical
import PyhamModel.Lemmas.FilterFaults
import PyhamModel.Lemmas.Meaning
import PyhamModel.Lemmas.FamilyProfile
import PyhamModel.Lemmas.Iso
import PyhamModel.Lemmas.IsoCounts
import PyhamModel.Lemmas.IsoWF
import PyhamModel.Lemmas.HistoryProfile
import PyhamModel.Lemmas.HistoryInvariance
import PyhamModel.Lemmas.FilterAbsent
import PyhamModel.Lemmas.Interleave
import PyhamModel.Lemmas.LeafProfile
import PyhamModel.Lemmas.SaxSim
import PyhamModel.Lemmas.Chaining
import PyhamModel.Lemmas.GainedCount
import PyhamModel.Lemmas.LostCount
import PyhamModel.Lemmas.LongBranchInvariance
import PyhamModel.Lemmas.ReportedCount
import PyhamModel.Lemmas.LateSpecies
namespace Pyham.Props
open Pyham

/-! ## Every consistent dataset loads into a well-formed analysis

  `Dataset.Consistent` is the properties' "HOG orthoXML consistent with the species tree": species
  names are leaf names, gene ids unique, every gene referenced at most once and declared in the species
  of its leaf, every family a written group encoding a well-formed recoverable history, node names
  unambiguous, family ids distinct.  The theorems below about comparisons and profiles are stated for
  every well-formed hierarchy (`H.WFc`, `H.sizesExact`); this theorem makes them apply to every loaded
  consistent input. -/

theorem consistent_dataset_loads_wellformed (D : Dataset) (hc : D.Consistent) :
    ∃ H, load D.T D.nm D.file = .ok H ∧
      H.tops.length = D.fams.length ∧
      (∀ i (h1 : i < H.tops.length) (h2 : i < D.fams.length),
          (H.tops[i]).1 = topHid (D.fams[i]).2 ∧ Realises (D.fams[i]).1 (D.fams[i]).2 (H.tops[i]).2) ∧
      H.WFc ∧ H.sizesExact = true ∧
      (H.genes.map (·.id)) = D.species.flatMap (fun s => s.genes.map (·.id)) :=
  loaded_consistent D hc

/-- ... and the full decidable predicate `Ham.wf` (= the predicate WF of property C02: every top an
    unflagged HOG, aligned, disciplined, events and flags consistent, genes at leaves, all identities
    distinct) together with exact genome gene lists -/
theorem consistent_dataset_loads_wf (D : Dataset) (hc : D.Consistent) :
    ∃ H, load D.T D.nm D.file = .ok H ∧ H.wf = true ∧ H.regExact = true ∧ H.sizesExact = true :=
  loaded_consistent_wf D hc

/-! ## C01 — every referenced gene is loaded exactly once, in its family -/

/-- for ANY input on which the (unfiltered) load succeeds: the families together hold exactly the
    referenced genes, each as often as it is referenced — nothing is lost, duplicated or moved by the
    reconstruction of missing levels and the re-homing of duplicated children -/
theorem C01_no_gene_lost_or_duplicated (env : Env) (es : List Elem) (tops : List Node) (ps : PS)
    (h : topElems env none es [] {} = .ok (tops, ps)) :
    (Node.leavesL tops).Perm (refsOfL es) := by
  have := (topElems_leaves env es [] {} tops ps h (by simp [HogKeysNodup]) (by intro k hk; simp at hk)).1
  simpa [Node.leavesL] using this

/-- … and family by family: the i-th top-level HOG holds exactly the genes referenced inside the
    i-th top-level group -/
theorem C01_members_per_family (env : Env) (es : List Elem) (tops : List Node) (ps : PS)
    (h : topElems env none es [] {} = .ok (tops, ps)) (hog : es.all isOg = true) :
    tops.length = es.length ∧
      ∀ i (h1 : i < tops.length) (h2 : i < es.length), (tops[i]).leaves.Perm (refsOf es[i]) :=
  topElems_families env es {} tops ps h hog

/-- the extant genes of a loaded analysis are exactly the `<gene>` elements of the file, in file order,
    each attached to the species that declares it and carrying all its cross-reference ids (C01 / C19) -/
theorem C01_extant_genes_are_the_declared (T : STree) (nm : Naming) (inp : Input) (H : Ham)
    (h : load T nm inp = .ok H) :
    H.genes.map (fun g => (g.id, g.species, g.xrefs)) =
      inp.species.flatMap (fun s => s.genes.map fun g => (g.id, s.name, g.xrefs)) :=
  Pyham.C01_extant_genes_are_the_declared T nm inp H h

/-! ## C03 — levels and duplication events are reconstructed by the MRCA rule -/

/-- fully explicit encodings: every family of the file is loaded, in order, and the loaded HOG
    realises the simulated true history (one HOG per group at its taxon, children one level down, one
    duplication record per duplication with exactly its copies as members) -/
theorem C03_explicit (env : Env) (fams : List (Taxon × SL))
    (hf : ∀ f ∈ fams, isGrp f.2 = true ∧ wfh env.T f.1 f.2 = true ∧ explicit f.2 = true ∧ Declared env f.1 f.2 ∧
      (genesOf f.2).Nodup)
    (hn : NamesInj env.T env.nm) :
    ∃ tops ps, topElems env none (fams.flatMap fun f => encode env.T env.nm f.1 f.2) [] {} = .ok (tops, ps) ∧
      tops.length = fams.length ∧
      ∀ i (h1 : i < tops.length) (h2 : i < fams.length), Realises (fams[i]).1 (fams[i]).2 tops[i] :=
  Pyham.C03_explicit env fams hf hn

/-- **the general case**: for every well-formed, recoverable spelled history -- elided single-member
    levels, duplications whose copies sit several levels below the enclosing written group, groups
    whose only content is a paralog group -- every family of the file is loaded, in order, and the
    loaded HOG realises its history: each orthologGroup becomes one HOG at the level the MRCA rule
    gives it, every skipped level is materialised as a single-child HOG, every duplication event sits
    directly under a HOG at its own level with exactly its copies as members -/
theorem C03_load_realises (env : Env) (fams : List (Taxon × SL))
    (hf : ∀ f ∈ fams, isWrittenGrp f.2 = true ∧ wfh env.T f.1 f.2 = true ∧ recoverable f.1 f.2 = true ∧
      Declared env f.1 f.2 ∧ (genesOf f.2).Nodup)
    (hn : NamesInj env.T env.nm) :
    ∃ tops ps, topElems env none (fams.flatMap fun f => encode env.T env.nm f.1 f.2) [] {} = .ok (tops, ps) ∧
      tops.length = fams.length ∧
      ∀ i (h1 : i < tops.length) (h2 : i < fams.length), Realises (fams[i]).1 (fams[i]).2 tops[i] :=
  Pyham.C03_load_realises env fams hf hn

/-! ## C02 — the hierarchy is a forest aligned level-by-level with the species tree -/

/-- the executable checker the driver evaluates on every explored case (echo `real`) is sound for the relation
    `Realises`: an echo `real=1` certifies that the model's load of that case realises its history -/
theorem C03_checker_sound (q : Taxon) (l : SL) (n : Node) (hk : (n.nodes.map Node.key).Nodup)
    (h : realisesB q l n = true) : Realises q l n := realisesB_sound q l n hk h

/-- whatever realises a well-formed history is well-formed: children exactly one level below their
    parent all the way down, paralog discipline, genes at leaves and non-empty HOGs at internal nodes,
    every duplication event attached at its level with at least two flagged children at one child taxon,
    and the member genes are those of the history -/
theorem C02_wf_of_realises (T : STree) (q : Taxon) (l : SL) (n : Node) (hw : wfh T q l = true)
    (h : Realises q l n) :
    n.tx = q ∧ n.aligned = true ∧ n.disciplined = true ∧ n.leaves.Perm (genesOf l) ∧
    (∀ x ∈ n.nodes, (x.isGene = true → T.isLeafAt x.tx = true) ∧
                    (x.isGene = false → T.isInternalAt x.tx = true ∧ x.kids ≠ [])) ∧
    (∀ x ∈ n.hogs, ∀ r ∈ x.dups, r.mrca = x.tx ∧ 2 ≤ r.members.length ∧
      (∀ m ∈ r.members, ∃ k ∈ x.kids, k.key = m ∧ k.dup = some r.did) ∧
      (∃ i, ∀ m ∈ r.members, ∀ k ∈ x.kids, k.key = m → k.dup = some r.did → k.tx = i :: x.tx)) :=
  ⟨realises_tx q l n h, realises_aligned q l n h, realises_disciplined T q l n hw h, realises_leaves q l n h,
   realises_shape T q l n hw h, realises_events T q l n hw h⟩

/-- in a well-formed analysis (every loaded consistent input, `consistent_dataset_loads_wf`) every gene and HOG occurs exactly
    once among the located members -- it is reachable from exactly one top-level HOG, through one chain of parents, or is a
    singleton -- and is identified by its identity -/
theorem C02_each_member_once (H : Ham) (hw : H.WFc) :
    H.allLocs.Nodup ∧ ∀ l1 ∈ H.allLocs, ∀ l2 ∈ H.allLocs, l1.node.key = l2.node.key → l1 = l2 :=
  ⟨allLocs_nodup hw, fun _ h1 _ h2 hk => key_inj hw h1 h2 hk⟩

/-! ## C04 — genome gene lists are exact -/

/-- for ANY successful load (filtered or not): the registration log (= the gene lists of the ancestral
    genomes) is, up to order, the list of all HOG nodes of the families with their taxa: every HOG
    once, none orphaned, none omitted -/
theorem C04_registration_exact (env : Env) (flt : HogFilter) (es : List Elem) (tops : List Node) (ps : PS)
    (h : topElems env flt es [] {} = .ok (tops, ps)) : ps.reg.Perm (regOfL tops) :=
  Pyham.C04_registration_exact env flt es tops ps h

/-- one HOG per lineage: a hierarchy that realises a history has, at every taxon, as many HOGs as lineages of
    the history cross that taxon -/
theorem C04_one_hog_per_lineage (t q : Taxon) (l : SL) (n : Node) (h : Realises q l n) :
    (n.hogs.filter fun x => x.tx == t).length = lineagesAt t q l := realises_lineage_count t q l n h

/-- **ancestral gene counts equal lineages at a taxon**: for every consistent dataset the ancestral genome at an
    internal taxon lists exactly as many HOGs as family lineages cross it -/
theorem C04_counts_are_lineages (D : Dataset) (hc : D.Consistent) :
    ∃ H, load D.T D.nm D.file = .ok H ∧
      ∀ t, D.T.isInternalAt t = true → H.genomeSize t = (D.fams.map fun f => lineagesAt t f.1 f.2).sum :=
  Pyham.C04_counts_are_lineages D hc

/-! ## C05 — a vertical comparison partitions both genomes -/

theorem C05_descendant_partition (H : Ham) (hw : H.WFc) (a d : Taxon) :
    ((hogsMap H a d).gain ++ (hogsMap H a d).retained.map (·.2) ++ (hogsMap H a d).dupl.flatMap (·.2)).Perm
      ((H.nodesAt d).map Loc.node) :=
  Pyham.C05_descendant_partition H hw a d

theorem C05_ancestor_partition (H : Ham) (hw : H.WFc) (a d : Taxon) :
    (((hogsMap H a d).loss ++ (hogsMap H a d).retained.map (·.1) ++ (hogsMap H a d).dupl.map (·.1)).map Node.key).Perm
      ((H.nodesAt a).map fun l => l.node.key) :=
  Pyham.C05_ancestor_partition H hw a d

theorem C05_sizes (H : Ham) (hw : H.WFc) (a d : Taxon) :
    (H.nodesAt d).length = (hogsMap H a d).gain.length + (hogsMap H a d).retained.length +
        ((hogsMap H a d).dupl.map (·.2.length)).sum ∧
    (H.nodesAt a).length = (hogsMap H a d).loss.length + (hogsMap H a d).retained.length +
        (hogsMap H a d).dupl.length :=
  ⟨C05_descendant_size H hw a d, C05_ancestor_size H hw a d⟩

/-- C05 for every loaded consistent input -/
theorem C05_on_loaded_consistent_input (D : Dataset) (hc : D.Consistent) :
    ∃ H, load D.T D.nm D.file = .ok H ∧ ∀ a d,
      ((hogsMap H a d).gain ++ (hogsMap H a d).retained.map (·.2) ++ (hogsMap H a d).dupl.flatMap (·.2)).Perm
        ((H.nodesAt d).map Loc.node) ∧
      (((hogsMap H a d).loss ++ (hogsMap H a d).retained.map (·.1) ++ (hogsMap H a d).dupl.map (·.1)).map Node.key).Perm
        ((H.nodesAt a).map fun l => l.node.key) := by
  obtain ⟨H, hl, _, _, hw, _, _⟩ := loaded_consistent D hc
  exact ⟨H, hl, fun a d => ⟨Pyham.C05_descendant_partition H hw a d, Pyham.C05_ancestor_partition H hw a d⟩⟩

/-! ## C06 — retained / duplicated / lost / gained mean what the documentation says -/

theorem C06_gained_iff (H : Ham) (a d : Taxon) (n : Node) :
    n ∈ (hogsMap H a d).gain ↔ ∃ r ∈ H.nodesAt d, r.node = n ∧ ∀ y ∈ r.anc, y.tx ≠ a :=
  Pyham.C06_gained_iff H a d n

theorem C06_reported_under (H : Ham) (hw : H.WFc) (a : Taxon) (r : Loc) (hr : r ∈ H.allLocs) (x : Node) (f : Bool) :
    search a r = (some x, f) ↔
      ∃ pre post, r.anc = pre ++ x :: post ∧ x.tx = a ∧
        (∀ y ∈ r.anc, y.tx = a → y = x) ∧ f = (flagged r.node || pre.any flagged) :=
  Pyham.C06_reported_under H hw a r hr x f

theorem C06_lost_iff (H : Ham) (hw : H.WFc) (a d : Taxon) (x : Loc) (hx : x ∈ H.nodesAt a) :
    x.node ∈ (hogsMap H a d).loss ↔ ∀ r ∈ H.nodesAt d, ∀ y ∈ r.anc, y.key ≠ x.node.key :=
  Pyham.C06_lost_iff H hw a d x hx

theorem C06_number_duplications (H : Ham) (a d : Taxon) :
    (hogsMap H a d).ndup = ((hogsMap H a d).dupl.map fun e => e.2.length - 1).sum :=
  Pyham.C06_number_duplications H a d

/-- **retained**: `(x, n)` is an item of RETAINED iff `n` is a member of the descendant genome whose upward search
    ends at the ancestral gene `x` without meeting a duplication (with `C06_reported_under`: `x` is the unique
    ancestor of `n` at the ancestral taxon and neither `n` nor anything strictly between arose by duplication) -/
theorem C06_retained_iff (H : Ham) (hw : H.WFc) (a d : Taxon) (x n : Node) :
    (x, n) ∈ (hogsMap H a d).retained ↔ ∃ r ∈ H.nodesAt d, r.node = n ∧ search a r = (some x, false) :=
  Pyham.C06_retained_iff H hw a d x n

/-- **duplicated**: `n` is in the DUPLICATE list of the ancestral gene with identity `k` iff `n` is a member of the
    descendant genome whose upward search ends at that gene having met a duplication -/
theorem C06_duplicated_iff (H : Ham) (a d : Taxon) (k : Key) (n : Node) :
    (∃ e ∈ (hogsMap H a d).dupl, e.1.key = k ∧ n ∈ e.2) ↔
      ∃ r ∈ H.nodesAt d, r.node = n ∧ ∃ x, search a r = (some x, true) ∧ x.key = k :=
  Pyham.C06_duplicated_iff H a d k n

/-- the keys of RETAINED and DUPLICATE are genes of the ancestral genome; no DUPLICATE list is empty -/
theorem C06_entries_sound (H : Ham) (hw : H.WFc) (a d : Taxon) :
    (∀ e ∈ (hogsMap H a d).retained, e.1.tx = a ∧ ∃ post, (⟨e.1, post⟩ : Loc) ∈ H.nodesAt a) ∧
    (∀ e ∈ (hogsMap H a d).dupl, e.1.tx = a ∧ (∃ post, (⟨e.1, post⟩ : Loc) ∈ H.nodesAt a) ∧ e.2 ≠ []) :=
  Pyham.C06_entries_sound H hw a d

/-- C06 for every loaded consistent input -/
theorem C06_on_loaded_consistent_input (D : Dataset) (hc : D.Consistent) :
    ∃ H, load D.T D.nm D.file = .ok H ∧
      (∀ a d n, n ∈ (hogsMap H a d).gain ↔ ∃ r ∈ H.nodesAt d, r.node = n ∧ ∀ y ∈ r.anc, y.tx ≠ a) ∧
      (∀ a r, r ∈ H.allLocs → ∀ x f, search a r = (some x, f) ↔
          ∃ pre post, r.anc = pre ++ x :: post ∧ x.tx = a ∧
            (∀ y ∈ r.anc, y.tx = a → y = x) ∧ f = (flagged r.node || pre.any flagged)) ∧
      (∀ a d x, x ∈ H.nodesAt a →
          (x.node ∈ (hogsMap H a d).loss ↔ ∀ r ∈ H.nodesAt d, ∀ y ∈ r.anc, y.key ≠ x.node.key)) ∧
      (∀ a d, (hogsMap H a d).ndup = ((hogsMap H a d).dupl.map fun e => e.2.length - 1).sum) :=
  Pyham.C06_on_loaded_consistent_input D hc

/-- **gained = the family is younger than the ancestral genome**: in the comparison of `d` with an ancestor `a`, a gene of `d`
    is GAINED iff the root of its family (the taxon of its top-level HOG, `Loc.rootTx`; the gene's own taxon for a singleton)
    lies strictly below `a` -/
theorem C06_gained_iff_family_younger (H : Ham) (hw : H.WFc) (a d : Taxon) (had : a <:+ d) (hne : a ≠ d) (n : Node) :
    n ∈ (hogsMap H a d).gain ↔ ∃ r ∈ H.nodesAt d, r.node = n ∧ ¬ (r.rootTx <:+ a) :=
  Pyham.C06_gained_iff_family_younger H hw a d had hne n

/-- **how many genes are gained over any branch** (not only a branch of length one), on the hierarchy: the members of `d`
    that belong to families rooted strictly below `a`, plus the singletons of `d` -/
theorem C06_gained_count (H : Ham) (hw : H.WFc) (a d : Taxon) (had : a <:+ d) (hne : a ≠ d) :
    (hogsMap H a d).gain.length =
      famSum H (fun top => if top.tx.isSuffixOf a then 0 else ((locs [] top).filter fun l => l.node.tx == d).length) +
      (singletonsAt H d).length :=
  Pyham.C06_gained_count H hw a d had hne

/-- ... END TO END, on the histories: for every consistent dataset and every ancestral node `d` below `a`, the comparison
    `a → d` reports as many gained genes as the histories of the families that start strictly below `a` have lineages
    crossing `d` -/
theorem C06_gained_count_is_the_history (D : Dataset) (hc : D.Consistent) :
    ∃ H, load D.T D.nm D.file = .ok H ∧ ∀ a d, a <:+ d → a ≠ d → D.T.isInternalAt d = true →
      (hogsMap H a d).gain.length =
        (D.fams.map fun f => if f.1.isSuffixOf a then 0 else lineagesAt d f.1 f.2).sum :=
  Pyham.C06_gained_count_is_the_history D hc

/-- **how many genes are lost over any branch**, on the hierarchy: the members of the genome at `a` with no node at `d` in
    their subtree (every singleton that sits at `a` included) -/
theorem C06_lost_count (H : Ham) (hw : H.WFc) (a d : Taxon) (hne : a ≠ d) :
    (hogsMap H a d).loss.length =
      famSum H (fun top => ((locs [] top).filter fun l =>
        l.node.tx == a && (l.node.nodes.filter fun y => y.tx == d).isEmpty).length) +
      (singletonsAt H a).length :=
  Pyham.C06_lost_count H hw a d hne

/-- ... END TO END, on the histories: for every consistent dataset and ancestral nodes `a`, `d`, the comparison reports as many
    lost genes as lineages of the histories cross `a` and have no lineage crossing `d` below them (`extinctAt`) -/
theorem C06_lost_count_is_the_history (D : Dataset) (hc : D.Consistent) :
    ∃ H, load D.T D.nm D.file = .ok H ∧ ∀ a d, a ≠ d → D.T.isInternalAt a = true → D.T.isInternalAt d = true →
      (hogsMap H a d).loss.length = (D.fams.map fun f => extinctAt a d f.1 f.2).sum :=
  Pyham.C06_lost_count_is_the_history D hc

/-- **how many genes are reported as duplicated / as retained over any branch**, on the hierarchy: one top-down walk per
    family that carries "below a member of `a`, and has a duplication been passed since" (`reportedN`) -/
theorem C06_reported_count (H : Ham) (hw : H.WFc) (a d : Taxon) :
    ((hogsMap H a d).dupl.map (·.2.length)).sum = famSum H (fun top => reportedN true a d none top) ∧
    (hogsMap H a d).retained.length = famSum H (fun top => reportedN false a d none top) :=
  Pyham.C06_reported_count H hw a d

/-- ... END TO END: for every consistent dataset and ANY two taxa, the comparison reports as many duplicated copies (resp.
    retained genes) as lineages of the histories cross `d` below a lineage at `a` with (resp. without) a duplication event on
    the way (`reportedAt`).  With the gained and lost counts: all four cluster sizes of every vertical comparison are functions
    of the histories -/
theorem C06_reported_count_is_the_history (D : Dataset) (hc : D.Consistent) :
    ∃ H, load D.T D.nm D.file = .ok H ∧ ∀ a d,
      ((hogsMap H a d).dupl.map (·.2.length)).sum = (D.fams.map fun f => reportedAt true a d f.1 none f.2).sum ∧
      (hogsMap H a d).retained.length = (D.fams.map fun f => reportedAt false a d f.1 none f.2).sum :=
  Pyham.C06_reported_count_is_the_history D hc

/-- **the number of duplication events of any comparison between ancestral genomes, END TO END** (last clause of C06): events +
    lineages crossing `a` = duplicated copies + lost + retained -- every term on the right, and the lineage count, is a function
    of the histories -/
theorem C06_number_duplications_is_the_history (D : Dataset) (hc : D.Consistent) :
    ∃ H, load D.T D.nm D.file = .ok H ∧ ∀ a d, a ≠ d → D.T.isInternalAt a = true → D.T.isInternalAt d = true →
      (hogsMap H a d).ndup + (D.fams.map fun f => lineagesAt a f.1 f.2).sum =
        (D.fams.map fun f => reportedAt true a d f.1 none f.2).sum + (D.fams.map fun f => extinctAt a d f.1 f.2).sum +
          (D.fams.map fun f => reportedAt false a d f.1 none f.2).sum :=
  Pyham.C06_number_duplications_is_the_history D hc

/-- `Loc.rootTx` is the taxon of the outermost ancestor (the top-level HOG), or of the member itself when it has none -/
theorem C06_rootTx_is_top (H : Ham) (hw : H.WFc) (r : Loc) (hr : r ∈ H.allLocs) :
    (r.anc = [] → r.rootTx = r.node.tx) ∧ (∀ top, r.anc.getLast? = some top → top.tx = r.rootTx) :=
  rootTx_is_top H hw r hr

/-! ## C07 — comparisons compose along a lineage -/

theorem C07_compose (H : Ham) (hw : H.WFc) (a b : Taxon) (hab : a <:+ b) (hne : a ≠ b)
    (r : Loc) (hr : r ∈ H.allLocs) (hbr : b <:+ r.node.tx) (hbne : b ≠ r.node.tx) :
    (∀ y g, search b r = (some y, g) →
        ∃ post, (⟨y, post⟩ : Loc) ∈ H.nodesAt b ∧
          search a r = ((search a ⟨y, post⟩).1, g || (search a ⟨y, post⟩).2)) ∧
    (∀ g, search b r = (none, g) → (search a r).1 = none) :=
  Pyham.C07_compose H hw a b hab hne r hr hbr hbne

/-- C07 for every loaded consistent input -/
theorem C07_on_loaded_consistent_input (D : Dataset) (hc : D.Consistent) :
    ∃ H, load D.T D.nm D.file = .ok H ∧
      ∀ (a b : Taxon), a <:+ b → a ≠ b → ∀ r ∈ H.allLocs, b <:+ r.node.tx → b ≠ r.node.tx →
        (∀ y g, search b r = (some y, g) →
          ∃ post, (⟨y, post⟩ : Loc) ∈ H.nodesAt b ∧
            search a r = ((search a ⟨y, post⟩).1, g || (search a ⟨y, post⟩).2)) ∧
        (∀ g, search b r = (none, g) → (search a r).1 = none) :=
  Pyham.C07_on_loaded_consistent_input D hc

/-- **second sentence of C07** -- gains, losses and duplicated sets over a long branch are determined by chaining the
    comparisons of its sub-branches.  For `a` above `b` above `d` on one lineage: gained over `a → d` = gained over `b → d`,
    or reported under a gene of `b` that is gained over `a → b`; reported under `x` with flag `f` iff reported under some `y` of
    `b` (flag `g`) which is reported under `x` (flag `f'`), `f = g || f'` (RETAINED / DUPLICATE of the long branch are the
    relational composition of those of the sub-branches); lost over `a → d` iff every gene of `b` reported under it is lost
    over `b → d` -/
theorem C07_chained (H : Ham) (hw : H.WFc) (a b d : Taxon) (hab : a <:+ b) (hne : a ≠ b) (hbd : b <:+ d) (hbne : b ≠ d) :
    (∀ n, n ∈ (hogsMap H a d).gain ↔
        n ∈ (hogsMap H b d).gain ∨
        ∃ y, (∃ r ∈ H.nodesAt d, r.node = n ∧ (search b r).1 = some y) ∧ y ∈ (hogsMap H a b).gain) ∧
    (∀ r ∈ H.nodesAt d, ∀ x f, search a r = (some x, f) ↔
        ∃ y g f', search b r = (some y, g) ∧
          (∃ yl ∈ H.nodesAt b, yl.node = y ∧ search a yl = (some x, f')) ∧ f = (g || f')) ∧
    (∀ x ∈ H.nodesAt a, x.node ∈ (hogsMap H a d).loss ↔
        ∀ yl ∈ H.nodesAt b, (∀ x', (search a yl).1 = some x' → x'.key = x.node.key → yl.node ∈ (hogsMap H b d).loss)) :=
  Pyham.C07_chained H hw a b d hab hne hbd hbne

/-- ... for every loaded consistent input -/
theorem C07_chained_on_loaded_consistent_input (D : Dataset) (hc : D.Consistent) :
    ∃ H, load D.T D.nm D.file = .ok H ∧ ∀ (a b d : Taxon), a <:+ b → a ≠ b → b <:+ d → b ≠ d →
      (∀ n, n ∈ (hogsMap H a d).gain ↔
          n ∈ (hogsMap H b d).gain ∨
          ∃ y, (∃ r ∈ H.nodesAt d, r.node = n ∧ (search b r).1 = some y) ∧ y ∈ (hogsMap H a b).gain) ∧
      (∀ x ∈ H.nodesAt a, x.node ∈ (hogsMap H a d).loss ↔
          ∀ yl ∈ H.nodesAt b, (∀ x', (search a yl).1 = some x' → x'.key = x.node.key → yl.node ∈ (hogsMap H b d).loss)) := by
  obtain ⟨H, hl, _, _, hw, _, _⟩ := loaded_consistent D hc
  exact ⟨H, hl, fun a b d h1 h2 h3 h4 => ⟨(Pyham.C07_chained H hw a b d h1 h2 h3 h4).1, (Pyham.C07_chained H hw a b d h1 h2 h3 h4).2.2⟩⟩

/-! ## C08 — lateral = vertical against the common ancestor; argument order irrelevant -/

theorem C08_lateral (H : Ham) (g1 g2 : Taxon) (ml : LMap) (h : lateral H g1 g2 = .ok ml) :
    ml.anc = mrca2 g1 g2 ∧ ml.anc <:+ g1 ∧ ml.anc <:+ g2 ∧
    (∀ e ∈ ml.maps, e.1 ≠ ml.anc ∧ (e.1 = g1 ∨ e.1 = g2) ∧ e.2 = hogsMap H ml.anc e.1 ∧
        vertical H ml.anc e.1 = .ok e.2) ∧
    (∀ g, (g = g1 ∨ g = g2) → g ≠ ml.anc → ∃ e ∈ ml.maps, e.1 = g) :=
  Pyham.C08_lateral H g1 g2 ml h

/-- **lateral comparisons, END TO END**: for every consistent dataset and any two genomes, every map of the lateral comparison
    (one per compared genome other than the common ancestor) reports as many duplicated copies and retained genes as the
    histories say about the branch from the common ancestor to that genome (`C08_lateral` + `C06_reported_count_is_the_history`) -/
theorem C08_lateral_counts_are_the_history (D : Dataset) (hc : D.Consistent) :
    ∃ H, load D.T D.nm D.file = .ok H ∧ ∀ g1 g2 ml, lateral H g1 g2 = .ok ml →
      ml.anc = mrca2 g1 g2 ∧ ∀ e ∈ ml.maps,
        (e.2.dupl.map (·.2.length)).sum = (D.fams.map fun f => reportedAt true (mrca2 g1 g2) e.1 f.1 none f.2).sum ∧
        e.2.retained.length = (D.fams.map fun f => reportedAt false (mrca2 g1 g2) e.1 f.1 none f.2).sum := by
  obtain ⟨H, hl, hrep⟩ := Pyham.C06_reported_count_is_the_history D hc
  refine ⟨H, hl, ?_⟩
  intro g1 g2 ml hml
  obtain ⟨hanc, _, _, hmaps, _⟩ := Pyham.C08_lateral H g1 g2 ml hml
  refine ⟨hanc, ?_⟩
  intro e he
  obtain ⟨_, _, heq, _⟩ := hmaps e he
  rw [heq, hanc]
  exact hrep (mrca2 g1 g2) e.1

theorem C08_lateral_symm (H : Ham) (g1 g2 : Taxon) (m1 m2 : LMap)
    (h1 : lateral H g1 g2 = .ok m1) (h2 : lateral H g2 g1 = .ok m2) : m1.anc = m2.anc ∧ m1.maps.Perm m2.maps :=
  Pyham.C08_lateral_symm H g1 g2 m1 m2 h1 h2

theorem C08_vertical_symm (H : Ham) (g1 g2 : Taxon) : vertical H g1 g2 = vertical H g2 g1 :=
  Pyham.C08_vertical_symm H g1 g2

theorem C08_vertical_not_lineage (H : Ham) (g1 g2 : Taxon) (h1 : ¬ g1 <:+ g2) (h2 : ¬ g2 <:+ g1) :
    vertical H g1 g2 = .error .type :=
  Pyham.C08_vertical_not_lineage H g1 g2 h1 h2

/-- the aggregated dictionaries of the lateral map (`get_lost`, `get_gained`, `get_retained`,
    `get_duplicated`), restricted to a compared genome, are exactly the clusters of its vertical comparison
    against the common ancestor -/
theorem C08_aggregated_views (H : Ham) (hw : H.WFc) (g1 g2 : Taxon) (ml : LMap) (h : lateral H g1 g2 = .ok ml)
    (e : Taxon × HMap) (he : e ∈ ml.maps) :
    ml.gainedIn e.1 = e.2.gain ∧
    ((ml.lostIn e.1).map Node.key).Perm (e.2.loss.map Node.key) ∧
    ((ml.retainedIn e.1).map fun r => (r.1.key, r.2.key)).Perm (e.2.retained.map fun r => (r.1.key, r.2.key)) ∧
    ((ml.duplicatedIn e.1).map fun r => (r.1.key, r.2.map Node.key)).Perm
      (e.2.dupl.map fun r => (r.1.key, r.2.map Node.key)) :=
  ⟨C08_agg_gained H g1 g2 ml h e he, C08_agg_lost H hw g1 g2 ml h e he,
   C08_agg_retained H hw g1 g2 ml h e he, C08_agg_duplicated H hw g1 g2 ml h e he⟩

/-! ## C09 — the whole-dataset tree profile balances on every branch -/

theorem C09_balance (H : Ham) (hw : H.WFc) (hs : H.sizesExact = true) (i : Nat) (u : Taxon)
    (ht : (i :: u) ∈ H.tree.allTaxa) (hu : u ∈ H.tree.allTaxa) :
    ∃ nd lost gain ret dpl,
      profileFullAt H (i :: u) =
        { tx := i :: u, nbr := H.genomeSize (i :: u), dupl := some nd, lost := some lost, gain := some gain,
          retained := some ret, duplication := some dpl, nbrEvents := some (dpl + lost + gain) } ∧
      H.genomeSize (i :: u) = ret + nd + gain ∧
      H.genomeSize (i :: u) + lost = H.genomeSize u + gain + dpl ∧
      (profileFullAt H u).nbr = H.genomeSize u :=
  Pyham.C09_balance H hw hs i u ht hu

/-- C09 for every loaded consistent input -/
theorem C09_on_loaded_consistent_input (D : Dataset) (hc : D.Consistent) :
    ∃ H, load D.T D.nm D.file = .ok H ∧ ∀ i u, (i :: u) ∈ H.tree.allTaxa → u ∈ H.tree.allTaxa →
      ∃ nd lost gain ret dpl,
        profileFullAt H (i :: u) =
          { tx := i :: u, nbr := H.genomeSize (i :: u), dupl := some nd, lost := some lost, gain := some gain,
            retained := some ret, duplication := some dpl, nbrEvents := some (dpl + lost + gain) } ∧
        H.genomeSize (i :: u) = ret + nd + gain ∧
        H.genomeSize (i :: u) + lost = H.genomeSize u + gain + dpl ∧
        (profileFullAt H u).nbr = H.genomeSize u := by
  obtain ⟨H, hl, _, _, hw, hs, _⟩ := loaded_consistent D hc
  exact ⟨H, hl, fun i u ht hu => Pyham.C09_balance H hw hs i u ht hu⟩

/-- **end to end -- the numbers are those of the history**: `copiesInto t q l` is the number of copies that the duplication
    events of the history `l` place on the branch into `t`, `eventsInto t q l` the number of those events.  For every
    consistent dataset the whole-dataset tree profile reports at every non-root node, as "duplicated", the copies the encoded
    histories place on the branch into the node, and as number of duplication events the sum over the events on that branch
    of (copies - 1).  (C09 / C10 / C06 say the numbers are consistent with each other and with the hierarchy; C03 says the
    hierarchy realises the history; this composes them into a statement about the input's meaning.) -/
theorem C09_profile_numbers_are_the_history (D : Dataset) (hc : D.Consistent) :
    ∃ H, load D.T D.nm D.file = .ok H ∧ ∀ i u, (i :: u) ∈ H.tree.allTaxa →
      on (profileFullAt H (i :: u)).dupl = (D.fams.map fun f => copiesInto (i :: u) f.1 f.2).sum ∧
      on (profileFullAt H (i :: u)).duplication =
        (D.fams.map fun f => copiesInto (i :: u) f.1 f.2 - eventsInto (i :: u) f.1 f.2).sum :=
  Pyham.C09_profile_numbers_are_the_history D hc

/-- **the whole profile entry of an ancestral node is a function of the histories**: genes = lineages crossing the node,
    gained = families that start there, duplicated = copies placed on the branch, duplication events = sum of (copies - 1);
    retained and lost are then fixed by the two balance equations -/
theorem C09_profile_from_histories (D : Dataset) (hc : D.Consistent) :
    ∃ H, load D.T D.nm D.file = .ok H ∧ ∀ i u, (i :: u) ∈ H.tree.allTaxa → D.T.isInternalAt (i :: u) = true →
      ∃ ret lost,
        profileFullAt H (i :: u) =
          { tx := i :: u, nbr := (D.fams.map fun f => lineagesAt (i :: u) f.1 f.2).sum,
            dupl := some ((D.fams.map fun f => copiesInto (i :: u) f.1 f.2).sum),
            lost := some lost,
            gain := some ((D.fams.filter fun f => f.1 == i :: u).length),
            retained := some ret,
            duplication := some ((D.fams.map fun f => copiesInto (i :: u) f.1 f.2 - eventsInto (i :: u) f.1 f.2).sum),
            nbrEvents := some ((D.fams.map fun f => copiesInto (i :: u) f.1 f.2 - eventsInto (i :: u) f.1 f.2).sum +
              lost + (D.fams.filter fun f => f.1 == i :: u).length) } ∧
        (D.fams.map fun f => lineagesAt (i :: u) f.1 f.2).sum =
          ret + (D.fams.map fun f => copiesInto (i :: u) f.1 f.2).sum + (D.fams.filter fun f => f.1 == i :: u).length ∧
        (D.fams.map fun f => lineagesAt (i :: u) f.1 f.2).sum + lost =
          (D.fams.map fun f => lineagesAt u f.1 f.2).sum + (D.fams.filter fun f => f.1 == i :: u).length +
            (D.fams.map fun f => copiesInto (i :: u) f.1 f.2 - eventsInto (i :: u) f.1 f.2).sum :=
  Pyham.C09_profile_from_histories D hc

/-- **C14 for the tree profile, whole files**: two consistent datasets over one species tree whose families are spellings of
    the same histories -- members, copies and sub-branches in any order, other ids, with or without labels and annotations,
    levels written or elided, either naming mode -- have the same whole-dataset tree profile entry at every ancestral node -/
theorem C14_profile_same_for_same_histories (D D' : Dataset) (hc : D.Consistent) (hc' : D'.Consistent)
    (hT : D.T = D'.T) (hlen : D.fams.length = D'.fams.length)
    (hs : ∀ i (h1 : i < D.fams.length) (h2 : i < D'.fams.length),
        (D.fams[i]).1 = (D'.fams[i]).1 ∧ SameL (D.fams[i]).2 (D'.fams[i]).2) :
    ∃ H H', load D.T D.nm D.file = .ok H ∧ load D'.T D'.nm D'.file = .ok H' ∧
      ∀ i u, (i :: u) ∈ D.T.allTaxa → D.T.isInternalAt (i :: u) = true →
        profileFullAt H (i :: u) = profileFullAt H' (i :: u) :=
  Pyham.C14_profile_same_for_same_histories D D' hc hc' hT hlen hs

/-- **the profile entry of a species node is a function of the species sections and the histories**: number of genes = genes
    the species section declares, gained = declared genes that no family references (+ families that start there),
    duplicated / duplication events = those of the histories on the branch, retained and lost by the balance equations
    (with `C09_profile_from_histories`: every non-root entry of the profile) -/
theorem C09_leaf_profile_from_dataset (D : Dataset) (hc : D.Consistent) :
    ∃ H, load D.T D.nm D.file = .ok H ∧ ∀ i u, (i :: u) ∈ H.tree.allTaxa → D.T.isLeafAt (i :: u) = true →
      ∃ ret lost,
        profileFullAt H (i :: u) =
          { tx := i :: u, nbr := (D.declaredAt (i :: u)).length,
            dupl := some ((D.fams.map fun f => copiesInto (i :: u) f.1 f.2).sum),
            lost := some lost,
            gain := some ((D.fams.filter fun f => f.1 == i :: u).length + (D.unreferencedAt (i :: u)).length),
            retained := some ret,
            duplication := some ((D.fams.map fun f => copiesInto (i :: u) f.1 f.2 - eventsInto (i :: u) f.1 f.2).sum),
            nbrEvents := some ((D.fams.map fun f => copiesInto (i :: u) f.1 f.2 - eventsInto (i :: u) f.1 f.2).sum +
              lost + ((D.fams.filter fun f => f.1 == i :: u).length + (D.unreferencedAt (i :: u)).length)) } ∧
        (D.declaredAt (i :: u)).length =
          ret + (D.fams.map fun f => copiesInto (i :: u) f.1 f.2).sum +
            ((D.fams.filter fun f => f.1 == i :: u).length + (D.unreferencedAt (i :: u)).length) ∧
        (D.declaredAt (i :: u)).length + lost =
          (D.fams.map fun f => lineagesAt u f.1 f.2).sum +
            ((D.fams.filter fun f => f.1 == i :: u).length + (D.unreferencedAt (i :: u)).length) +
            (D.fams.map fun f => copiesInto (i :: u) f.1 f.2 - eventsInto (i :: u) f.1 f.2).sum :=
  Pyham.C09_leaf_profile_from_dataset D hc

/-- **C14 for comparisons over arbitrary branches, whole files**: two consistent datasets that spell the same histories (any
    order, ids, labels, annotations, elision, either naming mode) report, for every two ancestral nodes `a` above `d`, the same
    number of gained genes and the same number of lost genes, over genomes of the same size -- hence also the same number of
    genes reported under an ancestor (`C05_sizes`) -/
theorem C14_long_branch_counts_same_for_same_histories (D D' : Dataset) (hc : D.Consistent) (hc' : D'.Consistent)
    (hT : D.T = D'.T) (hlen : D.fams.length = D'.fams.length)
    (hs : ∀ i (h1 : i < D.fams.length) (h2 : i < D'.fams.length),
        (D.fams[i]).1 = (D'.fams[i]).1 ∧ SameL (D.fams[i]).2 (D'.fams[i]).2) :
    ∃ H H', load D.T D.nm D.file = .ok H ∧ load D'.T D'.nm D'.file = .ok H' ∧
      ∀ a d, a <:+ d → a ≠ d → D.T.isInternalAt a = true → D.T.isInternalAt d = true →
        (hogsMap H a d).gain.length = (hogsMap H' a d).gain.length ∧
        (hogsMap H a d).loss.length = (hogsMap H' a d).loss.length ∧
        H.genomeSize d = H'.genomeSize d ∧ H.genomeSize a = H'.genomeSize a :=
  Pyham.C14_long_branch_counts_same_for_same_histories D D' hc hc' hT hlen hs

/-- **C14, every vertical comparison, whole files, the reported clusters**: same histories -- for ANY two taxa the same number of
    duplicated copies and of retained genes.  With the theorem above: the sizes of all four clusters of every comparison between
    ancestral genomes do not depend on how the histories are spelled -/
theorem C14_reported_counts_same_for_same_histories (D D' : Dataset) (hc : D.Consistent) (hc' : D'.Consistent)
    (hlen : D.fams.length = D'.fams.length)
    (hs : ∀ i (h1 : i < D.fams.length) (h2 : i < D'.fams.length),
        (D.fams[i]).1 = (D'.fams[i]).1 ∧ SameL (D.fams[i]).2 (D'.fams[i]).2) :
    ∃ H H', load D.T D.nm D.file = .ok H ∧ load D'.T D'.nm D'.file = .ok H' ∧ ∀ a d,
      ((hogsMap H a d).dupl.map (·.2.length)).sum = ((hogsMap H' a d).dupl.map (·.2.length)).sum ∧
      (hogsMap H a d).retained.length = (hogsMap H' a d).retained.length :=
  Pyham.C14_reported_counts_same_for_same_histories D D' hc hc' hlen hs

/-- **C14 for the tree profile at the species nodes**: same histories (any spelling) and species sections that declare the
    same genes for every species, in any order (`declaredAt` resolves the species names against the tree under the dataset's
    own naming mode) -- same profile entry at every leaf -/
theorem C14_leaf_profile_same_for_same_histories (D D' : Dataset) (hc : D.Consistent) (hc' : D'.Consistent)
    (hT : D.T = D'.T) (hlen : D.fams.length = D'.fams.length)
    (hs : ∀ i (h1 : i < D.fams.length) (h2 : i < D'.fams.length),
        (D.fams[i]).1 = (D'.fams[i]).1 ∧ SameL (D.fams[i]).2 (D'.fams[i]).2)
    (hdecl : ∀ t, (D.declaredAt t).Perm (D'.declaredAt t)) :
    ∃ H H', load D.T D.nm D.file = .ok H ∧ load D'.T D'.nm D'.file = .ok H' ∧
      ∀ i u, (i :: u) ∈ D.T.allTaxa → D.T.isLeafAt (i :: u) = true →
        profileFullAt H (i :: u) = profileFullAt H' (i :: u) :=
  Pyham.C14_leaf_profile_same_for_same_histories D D' hc hc' hT hlen hs hdecl

/-- ... and family by family, for whatever realises a well-formed history -/
theorem C10_family_profile_is_the_history (T : STree) (q : Taxon) (l : SL) (top : Node) (hr : Realises q l top)
    (hw : wfh T q l = true) (hc : LClosed (locs [] top)) (i : Nat) (u : Taxon) :
    on (profileHogAt top (i :: u)).dupl = copiesInto (i :: u) q l ∧
    on (profileHogAt top (i :: u)).duplication = copiesInto (i :: u) q l - eventsInto (i :: u) q l ∧
    eventsInto (i :: u) q l ≤ copiesInto (i :: u) q l :=
  realises_profile_counts T q l top hr hw hc i u

/-- the JSON tree of the HTML export embeds exactly the numbers of the profile -/
theorem C09_json_embeds_profile (H : Ham) :
    (profileFullJson H).read [] =
      H.tree.allTaxa.map fun t =>
        (t, (profileFullAt H t).nbr,
          if t = [] then none
          else some ((profileFullAt H t).retained, (profileFullAt H t).dupl, (profileFullAt H t).gain,
                     (profileFullAt H t).lost, (profileFullAt H t).duplication)) :=
  Pyham.C09_json_embeds_profile H

theorem C09_root_and_total (H : Ham) :
    profileFullAt H [] = { tx := [], nbr := H.genomeSize [] } ∧ (profileFull H).map (·.tx) = H.tree.allTaxa :=
  ⟨C09_root H, C09_total H⟩

/-! ## C10 — per-family tree profiles add up to the whole-dataset profile -/

/-- **the tree profile of a single HOG** (first sentence of C10): at every node `i :: u` other than the HOG's own taxon,
    `nbr` counts the family's members living at the node, `dupl` those of them that arose by duplication, `retained` the
    others (`nbr = dupl + retained`), `lost` the family's members at the parent node none of whose children lives at the
    node, and no gain is reported; at the HOG's own taxon only the number of members there is reported -/
theorem C10_family_profile_meaning (top : Node) (ha : top.aligned = true) (i : Nat) (u : Taxon)
    (hne : ((i :: u) == top.tx) = false) :
    (profileHogAt top (i :: u)).nbr = ((locs [] top).filter fun l => l.node.tx == i :: u).length ∧
    on (profileHogAt top (i :: u)).dupl =
      (((locs [] top).filter fun l => l.node.tx == i :: u).filter fun l => l.node.dup.isSome).length ∧
    on (profileHogAt top (i :: u)).retained =
      (((locs [] top).filter fun l => l.node.tx == i :: u).filter fun l => !l.node.dup.isSome).length ∧
    (profileHogAt top (i :: u)).nbr =
      on (profileHogAt top (i :: u)).dupl + on (profileHogAt top (i :: u)).retained ∧
    on (profileHogAt top (i :: u)).lost =
      (((locs [] top).filter fun l => l.node.tx == u).filter
        fun x => !(x.node.kids.any fun c => c.tx == i :: u)).length ∧
    (profileHogAt top (i :: u)).gain = none :=
  Pyham.C10_family_profile_meaning top ha i u hne

theorem C10_family_profile_root (top : Node) :
    profileHogAt top top.tx = { tx := top.tx, nbr := ((locs [] top).filter fun l => l.node.tx == top.tx).length } :=
  Pyham.C10_family_profile_root top

/-- at every non-root node of the tree the six numbers of the whole-dataset profile are the sums of
    the per-family numbers, with singletons counted as gains at their species and each family root as
    a gain at its taxon -/
theorem C10_profiles_add_up (H : Ham) (hw : H.wf = true) (hs : H.sizesExact = true) (i : Nat) (u : Taxon)
    (ht : (i :: u) ∈ H.tree.allTaxa) :
    (profileFullAt H (i :: u)).nbr =
        famSum H (fun top => (profileHogAt top (i :: u)).nbr) + (singletonsAt H (i :: u)).length ∧
    on (profileFullAt H (i :: u)).gain =
        (H.tops.filter fun p => p.2.tx == i :: u).length + (singletonsAt H (i :: u)).length ∧
    on (profileFullAt H (i :: u)).dupl = famSum H (fun top => on (profileHogAt top (i :: u)).dupl) ∧
    on (profileFullAt H (i :: u)).retained = famSum H (fun top => on (profileHogAt top (i :: u)).retained) ∧
    on (profileFullAt H (i :: u)).lost = famSum H (fun top => on (profileHogAt top (i :: u)).lost) ∧
    on (profileFullAt H (i :: u)).duplication = famSum H (fun top => on (profileHogAt top (i :: u)).duplication) :=
  Pyham.C10_profiles_add_up H hw hs i u ht

/-- the same on the level of the vertical comparison with the parent node -/
theorem C10_additivity (H : Ham) (hw : H.wf = true) (i : Nat) (u : Taxon) (ht : (i :: u) ∈ H.tree.allTaxa) :
    (H.nodesAt (i :: u)).length =
        famSum H (fun top => (profileHogAt top (i :: u)).nbr) + (singletonsAt H (i :: u)).length ∧
    (hogsMap H u (i :: u)).gain.length =
        (H.tops.filter fun p => p.2.tx == i :: u).length + (singletonsAt H (i :: u)).length ∧
    ((hogsMap H u (i :: u)).dupl.map (·.2.length)).sum = famSum H (fun top => on (profileHogAt top (i :: u)).dupl) ∧
    (hogsMap H u (i :: u)).retained.length = famSum H (fun top => on (profileHogAt top (i :: u)).retained) ∧
    (hogsMap H u (i :: u)).loss.length = famSum H (fun top => on (profileHogAt top (i :: u)).lost) ∧
    (hogsMap H u (i :: u)).ndup = famSum H (fun top => on (profileHogAt top (i :: u)).duplication) :=
  Pyham.C10_additivity_partial H hw i u ht

/-- C10 for every loaded consistent input -/
theorem C10_on_loaded_consistent_input (D : Dataset) (hc : D.Consistent) :
    ∃ H, load D.T D.nm D.file = .ok H ∧ ∀ i u, (i :: u) ∈ H.tree.allTaxa →
      (profileFullAt H (i :: u)).nbr =
          famSum H (fun top => (profileHogAt top (i :: u)).nbr) + (singletonsAt H (i :: u)).length ∧
      on (profileFullAt H (i :: u)).gain =
          (H.tops.filter fun p => p.2.tx == i :: u).length + (singletonsAt H (i :: u)).length ∧
      on (profileFullAt H (i :: u)).dupl = famSum H (fun top => on (profileHogAt top (i :: u)).dupl) ∧
      on (profileFullAt H (i :: u)).retained = famSum H (fun top => on (profileHogAt top (i :: u)).retained) ∧
      on (profileFullAt H (i :: u)).lost = famSum H (fun top => on (profileHogAt top (i :: u)).lost) ∧
      on (profileFullAt H (i :: u)).duplication = famSum H (fun top => on (profileHogAt top (i :: u)).duplication) := by
  obtain ⟨H, hl, hw, _, hs⟩ := loaded_consistent_wf D hc
  exact ⟨H, hl, fun i u ht => Pyham.C10_profiles_add_up H hw hs i u ht⟩

/-! ## C11 — a filtered load is the projection of the full load onto the selected families -/

/-- the filtered load of a file IS the unfiltered load of the projected file (only the kept genes, only
    the kept families): unselected families and their genes are absent from everything, and the
    position of a selected family among skipped ones cannot matter -/
theorem C11_filtered_is_projection (T : STree) (nm : Naming) (inp : Input) (keep : String → Bool) (ids : List String)
    (h : inp.groups.all isOgWithId = true) :
    buildHam T nm inp keep (some ids) = buildHam T nm (projectInput inp keep ids) (fun _ => true) none :=
  Pyham.C11_filtered_is_projection T nm inp keep ids h

theorem C11_loadFiltered (T : STree) (nm : Naming) (inp : Input) (f : Filter) (h : inp.groups.all isOgWithId = true) :
    ∃ gids hids, filterTops f inp.groups (filterGenes f inp.species, []) = .ok (gids, hids) ∧
      loadFiltered T nm inp f = buildHam T nm (projectInput inp gids.contains hids) (fun _ => true) none :=
  Pyham.C11_loadFiltered T nm inp f h

/-- **unselected genes are absent from every listing and lookup**: every gene a filtered analysis lists was selected by
    the first pass (`gids`, characterised by `C11_first_pass`: the named genes and the members of the selected families);
    lookups by id or by cross-reference can only return selected genes -/
theorem C11_only_selected_genes (T : STree) (nm : Naming) (inp : Input) (f : Filter) (Hf : Ham)
    (h : inp.groups.all isOgWithId = true) (hf : loadFiltered T nm inp f = .ok Hf) :
    ∃ gids hids, filterTops f inp.groups (filterGenes f inp.species, []) = .ok (gids, hids) ∧
      (∀ g ∈ Hf.genes, g.id ∈ gids) ∧
      (∀ id g, Hf.geneById id = .ok g → id ∈ gids) ∧
      (∀ v ids, Hf.genesByExternalId v = .ok ids → ∀ id ∈ ids, id ∈ gids) :=
  Pyham.C11_only_selected_genes T nm inp f Hf h hf

/-- which families the first pass selects: those that are named or contain a named gene -/
theorem C11_first_pass (f : Filter) (es : List Elem) (h : es.all isOgWithId = true)
    (hdis : (es.map refsOf).Pairwise (fun a b => ∀ r ∈ a, r ∉ b)) (g0 h0 : List String) :
    ∃ gids hids, filterTops f es (g0, h0) = .ok (gids, hids) ∧
      (∀ i, i ∈ hids ↔ i ∈ h0 ∨ ∃ e ∈ es, topId e = some i ∧
          (f.hogIds.contains i = true ∨ ∃ r ∈ refsOf e, r ∈ g0)) ∧
      (∀ r, r ∈ gids ↔ r ∈ g0 ∨ ∃ e ∈ es, r ∈ refsOf e ∧ ∃ i, topId e = some i ∧
          (f.hogIds.contains i = true ∨ ∃ r' ∈ refsOf e, r' ∈ g0)) :=
  filterTops_spec f es h hdis g0 h0

/-! ## C13 — equivalent ways of supplying the same data (the naming mode) -/

theorem C13_naming_independent (T : STree) (nm1 nm2 : Naming) (inp : Input)
    (hs : ∀ s ∈ inp.species, resolveSpecies T nm1 s.name = resolveSpecies T nm2 s.name)
    (hl : noLabelL inp.groups = true) :
    (load T nm1 inp).map (fun H => (H.tops, H.genes, H.species, H.reg)) =
    (load T nm2 inp).map (fun H => (H.tops, H.genes, H.species, H.reg)) :=
  Pyham.C13_naming_independent T nm1 nm2 inp hs hl

theorem C13_analyses_naming (H1 H2 : Ham) (ht : H1.tree = H2.tree) (h1 : H1.tops = H2.tops) (h2 : H1.genes = H2.genes)
    (h3 : H1.reg = H2.reg) :
    (∀ a d, hogsMap H1 a d = hogsMap H2 a d) ∧ (∀ g1 g2, vertical H1 g1 g2 = vertical H2 g1 g2) ∧
    (∀ g1 g2, lateral H1 g1 g2 = lateral H2 g1 g2) ∧ profileFull H1 = profileFull H2 ∧
    (∀ top, profileHog H1 top = profileHog H2 top) :=
  analyses_naming H1 H2 ht h1 h2 h3

/-! ## C14 — results do not depend on how the file happens to be written -/

/-- two spellings of one history (members and copies in any order, any group ids, with or without
    TaxRange labels and annotations, levels elided or spelled out) are realised by exactly the same
    hierarchies; with `C03_load_realises` both loads realise the one history -/
theorem C14_spelling_iff (q : Taxon) (l l' : SL) (n : Node) (h : SameL l l') :
    Realises q l n ↔ Realises q l' n :=
  Pyham.C14_spelling_iff q l l' n h

/-- **the history determines the hierarchy**: two hierarchies that realise spellings of one history (with distinct
    object identities) read back -- through `spell`, the reading the iHam exporter uses -- to the same history up to
    spelling; i.e. they are the same hierarchy up to sibling order, object numbering and annotations -/
theorem C14_same_history_same_hierarchy (T : STree) (q : Taxon) (l l' : SL) (n n' : Node) (hs : SameL l l')
    (hw : wfh T q l = true) (hw' : wfh T q l' = true) (hr : Realises q l n) (hr' : Realises q l' n')
    (hk : (n.nodes.map Node.key).Nodup) (hk' : (n'.nodes.map Node.key).Nodup) :
    SameL (spell false false n) (spell false false n') :=
  realises_unique_spellings T q l l' n n' hs hw hw' hr hr' hk hk'

/-- **C13 / C14 for whole files**: two consistent datasets over one species tree whose families are spellings of
    the same histories -- members and species blocks in any order, other group ids, with or without TaxRange labels,
    levels elided or spelled out, EITHER naming mode -- load into the same hierarchies, family by family -/
theorem C14_same_histories_same_hierarchies (D D' : Dataset) (hc : D.Consistent) (hc' : D'.Consistent)
    (hT : D.T = D'.T) (hlen : D.fams.length = D'.fams.length)
    (hs : ∀ i (h1 : i < D.fams.length) (h2 : i < D'.fams.length),
        (D.fams[i]).1 = (D'.fams[i]).1 ∧ SameL (D.fams[i]).2 (D'.fams[i]).2) :
    ∃ H H', load D.T D.nm D.file = .ok H ∧ load D'.T D'.nm D'.file = .ok H' ∧
      H.tops.length = H'.tops.length ∧
      ∀ i (h1 : i < H.tops.length) (h2 : i < H'.tops.length),
        SameL (spell false false (H.tops[i]).2) (spell false false (H'.tops[i]).2) :=
  same_histories_same_hierarchies D D' hc hc' hT hlen hs

/-- **comparisons see nothing but the located-member structure**: if the located members of `H'` are the images under `φ`
    of those of `H` -- whatever the order in which families, children and duplication records are stored, whatever the
    numbering of objects, ids and annotations -- and `φ` keeps taxon, "arose by duplication" and distinctness of
    identities (`LocIso`), then every cluster of every vertical comparison of `H'` is the image of the corresponding
    cluster of `H`: nothing else can influence a comparison result (C13 / C14 / C11 "... or any comparison result") -/
theorem C14_comparisons_respect_isomorphism (H H' : Ham) (φ : Node → Node) (h : LocIso H H' φ) (hw : H.WFc) (hw' : H'.WFc)
    (a d : Taxon) :
    (∀ n', n' ∈ (hogsMap H' a d).gain ↔ ∃ n ∈ (hogsMap H a d).gain, n' = φ n) ∧
    (∀ p', p' ∈ (hogsMap H' a d).retained ↔ ∃ p ∈ (hogsMap H a d).retained, p' = (φ p.1, φ p.2)) ∧
    (∀ k' n', (∃ e' ∈ (hogsMap H' a d).dupl, e'.1.key = k' ∧ n' ∈ e'.2) ↔
        ∃ x n, H.occ x ∧ (∃ e ∈ (hogsMap H a d).dupl, e.1.key = x.key ∧ n ∈ e.2) ∧ k' = (φ x).key ∧ n' = φ n) ∧
    (∀ x', x' ∈ (hogsMap H' a d).loss ↔ ∃ x ∈ (hogsMap H a d).loss, x' = φ x) :=
  ⟨fun n' => iso_gain h a d n', fun p' => iso_retained h hw hw' a d p', fun k' n' => iso_duplicated h a d k' n',
   fun x' => iso_loss h hw hw' a d x'⟩

/-- ... and the NUMBERS of every comparison (gained, retained, duplicated genes, duplicated ancestral genes, lost, duplication
    events), hence the whole-dataset tree profile at every node, are the same for isomorphic analyses (with equal genome
    sizes): re-ordering families or members, renumbering objects cannot change a tree profile (C09 / C13 / C14) -/
theorem C14_counts_and_profile_respect_isomorphism (H H' : Ham) (φ : Node → Node) (h : LocIso H H' φ)
    (hw : H.WFc) (hw' : H'.WFc) :
    (∀ a d, (hogsMap H' a d).counts = (hogsMap H a d).counts) ∧
    ((∀ t, H'.genomeSize t = H.genomeSize t) → ∀ t, profileFullAt H' t = profileFullAt H t) :=
  ⟨fun a d => iso_counts h hw hw' a d, fun hsz t => iso_profile h hw hw' hsz t⟩

/-- instances of the hypothesis: the same analysis (identity), the families stored in another order (a file with its
    top-level groups re-ordered), every object renumbered (other or skipped families loaded before: the creation
    counter differs, `C11_family_identical`), the children of every HOG re-ordered by an arbitrary rule `f` (the
    members of any group written in another order; with distinct identities `f` can pick a different permutation
    for every HOG) -/
theorem C14_isomorphic_analyses (H : Ham) :
    LocIso H H id ∧
    (∀ H' : Ham, H'.tops.Perm H.tops → H'.genes = H.genes → LocIso H H' id) ∧
    (∀ k, LocIso H (H.renumber k) (Node.shift k)) ∧
    (∀ f : List Node → List Node, (∀ l, (f l).Perm l) → LocIso H (H.reorder f) (Node.reorder f)) :=
  ⟨LocIso.refl H, fun H' hp hg => LocIso.of_tops_perm H H' hp hg, fun k => LocIso.of_renumber H k,
   fun f hf => LocIso.of_reorder H f hf⟩

/-- **the order of the members of any group does not matter** (self-contained form): for a well-formed analysis `H` and any
    rule `f` that re-orders children lists, the re-ordered analysis is well formed and isomorphic to `H`, every comparison has
    the same six numbers, and the whole-dataset tree profile is the same at every node.  (The clusters themselves are the
    images under `Node.reorder f`: `C14_comparisons_respect_isomorphism`.) -/
theorem C14_member_order_irrelevant (H : Ham) (hw : H.WFc) (f : List Node → List Node) (hf : ∀ l, (f l).Perm l) :
    (H.reorder f).WFc ∧ LocIso H (H.reorder f) (Node.reorder f) ∧
    (∀ a d, (hogsMap (H.reorder f) a d).counts = (hogsMap H a d).counts) ∧
    (∀ t, profileFullAt (H.reorder f) t = profileFullAt H t) :=
  ⟨WFc_reorder H hw f hf, LocIso.of_reorder H f hf,
   fun a d => iso_counts (LocIso.of_reorder H f hf) hw (WFc_reorder H hw f hf) a d,
   fun t => iso_profile (LocIso.of_reorder H f hf) hw (WFc_reorder H hw f hf) (fun _ => rfl) t⟩

/-- **the numbering of objects does not matter** (self-contained form; C11 "identical to the same family in an unfiltered
    load ... the position of a selected family in the file does not matter": the creation counter depends on what was
    loaded or skipped before) -/
theorem C11_renumbering_irrelevant (H : Ham) (hw : H.WFc) (k : Nat) :
    (H.renumber k).WFc ∧ LocIso H (H.renumber k) (Node.shift k) ∧
    (∀ a d, (hogsMap (H.renumber k) a d).counts = (hogsMap H a d).counts) ∧
    (∀ t, profileFullAt (H.renumber k) t = profileFullAt H t) :=
  ⟨WFc_renumber H hw k, LocIso.of_renumber H k,
   fun a d => iso_counts (LocIso.of_renumber H k) hw (WFc_renumber H hw k) a d,
   fun t => iso_profile (LocIso.of_renumber H k) hw (WFc_renumber H hw k) (fun _ => rfl) t⟩

/-- **the order of the families does not matter** (self-contained form) -/
theorem C14_family_order_irrelevant (H H' : Ham) (hw : H.WFc) (hp : H'.tops.Perm H.tops) (hg : H'.genes = H.genes)
    (ht : H'.tree = H.tree) (hr : H'.reg = H.reg) :
    H'.WFc ∧ (∀ a d, (hogsMap H' a d).counts = (hogsMap H a d).counts) ∧
    (∀ a d n, n ∈ (hogsMap H' a d).gain ↔ n ∈ (hogsMap H a d).gain) ∧
    (∀ a d x, x ∈ (hogsMap H' a d).loss ↔ x ∈ (hogsMap H a d).loss) ∧
    (∀ a d p, p ∈ (hogsMap H' a d).retained ↔ p ∈ (hogsMap H a d).retained) ∧
    (∀ t, profileFullAt H' t = profileFullAt H t) := by
  have hw' := WFc_of_tops_perm H H' hw hp hg
  have hi := LocIso.of_tops_perm H H' hp hg
  refine ⟨hw', fun a d => iso_counts hi hw hw' a d, ?_, ?_, ?_, ?_⟩
  · intro a d n
    rw [iso_gain hi a d n]
    exact ⟨fun ⟨m, hm, e⟩ => by rw [e]; exact hm, fun hm => ⟨n, hm, rfl⟩⟩
  · intro a d x
    rw [iso_loss hi hw hw' a d x]
    exact ⟨fun ⟨m, hm, e⟩ => by rw [e]; exact hm, fun hm => ⟨x, hm, rfl⟩⟩
  · intro a d p
    rw [iso_retained hi hw hw' a d p]
    exact ⟨fun ⟨m, hm, e⟩ => by rw [e]; exact hm, fun hm => ⟨p, hm, rfl⟩⟩
  · intro t
    refine iso_profile hi hw hw' (fun t => ?_) t
    unfold Ham.genomeSize
    rw [ht, hg, hr]

/-- **nested vs flat paralogGroups** (a multi-copy duplication written as directly nested paralogGroups or as
    one flat paralogGroup): if the flattened spelling of a file loads, the nested spelling loads to the SAME
    analysis -- for any input whatsoever (consistent or not), provided every directly nested paralogGroup
    contributes a member (`nestsOkL`; otherwise the loader rejects the file, C20).

    The full statement (without `noTaxRangeL`) is FALSE of the model and is not claimed: when a species-level
    group is dissolved into its parent inside a paralogGroup (the `TaxRange` collapse branch, outside the
    domain of the properties, DESIGN §6 D7) a paralogGroup nested directly after it starts a second
    DuplicationNode; `C14_nested_eq_flat_needs_no_collapse` is the kernel-checked counterexample.  Hence the
    hypothesis `noTaxRangeL`: files without TaxRange properties.  Labelled files are covered for flat spellings by
    `C03_load_realises` / `C14_spelling_iff`, and nested + labelled files by the correspondence run only. -/
theorem C14_nested_eq_flat_partial (T : STree) (nm : Naming) (inp : Input) (H : Ham)
    (hn : nestsOkL inp.groups = true) (ht : noTaxRangeL inp.groups = true)
    (h : load T nm { inp with groups := flatItems inp.groups } = .ok H) :
    load T nm inp = .ok H :=
  Pyham.C14_nested_eq_flat_partial T nm inp H hn ht h

theorem C14_nested_eq_flat_needs_no_collapse :
    nestsOkL cxGroups = true ∧
    (load cxTree .own (Input.mk cxSpecies cxGroups)).toOption.map (·.reg.length) = some 3 ∧
    (load cxTree .own (Input.mk cxSpecies (flatItems cxGroups))).toOption.map (·.reg.length) = some 4 :=
  Pyham.C14_nested_eq_flat_needs_no_collapse

/-- **position in the file, other families** (C14 re-ordering of families; C11 "identical to the same family
    in an unfiltered load ... the position of a selected family in the file does not matter"; C01 "no gene is
    moved"): if two files both load and contain the same top-level group, the family loaded for it is the
    same hierarchy in both -- members, taxon of every HOG, duplication grouping, annotations -- up to the
    numbering of objects (`Node.shift`; `shift_*` below say what the renumbering preserves) -/
theorem C11_family_identical (env : Env) (es es' : List Elem) (tops tops' : List Node) (ps ps' : PS)
    (hog : es.all isOg = true) (hog' : es'.all isOg = true)
    (h : topElems env none es [] {} = .ok (tops, ps)) (h' : topElems env none es' [] {} = .ok (tops', ps'))
    (i j : Nat) (hi : i < es.length) (hj : j < es'.length) (he : es[i] = es'[j]) :
    ∃ (n : Node) (k k' : Nat) (h1 : i < tops.length) (h2 : j < tops'.length),
      tops[i] = n.shift k ∧ tops'[j] = n.shift k' :=
  Pyham.C11_family_identical env es es' tops tops' ps ps' hog hog' h h' i j hi hj he

/-- **C11, last clause**: every family of a filtered load is -- members, taxon of every HOG, duplication grouping,
    annotations; up to the numbering of objects -- the family the unfiltered load of the same file builds for the
    same top-level group -/
theorem C11_filtered_family_identical (T : STree) (nm : Naming) (inp : Input) (f : Filter) (H Hf : Ham)
    (hog : inp.groups.all isOgWithId = true)
    (hgenes : (inp.species.flatMap fun s => s.genes.map (·.id)).Nodup)
    (htop : (inp.groups.map topId).Nodup)
    (hfull : load T nm inp = .ok H) (hflt : loadFiltered T nm inp f = .ok Hf) :
    ∀ p ∈ Hf.tops, ∃ p' ∈ H.tops, ∃ (n : Node) (k k' : Nat),
      p.1 = p'.1 ∧ p.2 = n.shift k ∧ p'.2 = n.shift k' :=
  Pyham.C11_filtered_family_identical T nm inp f H Hf hog hgenes htop hfull hflt

/-- loading one family after anything = loading it alone, renumbered (errors included) -/
theorem C11_family_local (env : Env) (hid og : Option String) (its : List Elem) (tops0 : List Node) (ps0 : PS)
    (hi : ps0.idle) (hf : ps0.fresh) :
    topElem env none (.og hid og its) tops0 ps0 =
      match topElem env none (.og hid og its) [] {} with
      | .error e => .error e
      | .ok (res, ps') => .ok (tops0 ++ Node.shiftL ps0.next res, ps0.after ps') :=
  family_local env hid og its tops0 ps0 hi hf

/-- what renumbering preserves: members, taxa of all HOGs, and per HOG the duplication grouping and annotations -/
theorem C11_shift_preserves (k : Nat) (n : Node) :
    (n.shift k).leaves = n.leaves ∧ (n.shift k).tx = n.tx ∧ (n.shift k).hogs.map Node.tx = n.hogs.map Node.tx :=
  ⟨shift_leaves k n, shift_tx k n, shift_hogs_tx k n⟩

/-! ## C12 — the iHam orthoXML export declares and references exactly the member genes -/

theorem C12_export_members (H : Ham) (n : Node) (h : exportable n = true) :
    (refsOfL (ihamExport H n).groups).Perm n.leaves ∧
    ((ihamExport H n).species.flatMap (fun s => s.genes.map (·.id))).Perm n.leaves :=
  Pyham.C12_export_members H n h

/-- the export of a HOG is the encoding of a well-formed, RECOVERABLE spelled history (`spell`): the
    exporter never elides a group the loader cannot re-infer (this is what the repairs D5 and D9 restored) -/
theorem C12_export_is_recoverable_encoding (T : STree) (nm : Naming) (pOg keep : Bool) (n : Node) (h : ExportWF T n) :
    exportVisit (nameOrEmpty T nm) pOg keep n = encode T nm n.tx (spell pOg keep n) ∧
    wfh T n.tx (spell pOg keep n) = true ∧ recoverable n.tx (spell pOg keep n) = true ∧
    Realises n.tx (spell pOg keep n) (stripNode n) :=
  ⟨export_is_encode T nm pOg keep n h, spell_wfh T pOg keep n h, spell_recoverable T pOg keep n h,
   spell_realised T pOg keep n h⟩

/-- **round-trip**: re-loading the export of a HOG with the same species tree yields exactly one family,
    and that family and the original HOG (minus the LOFT ids and paralogGroup ids the exporter does not
    write) realise one and the same history: same members, same taxon for every sub-HOG, same duplication
    grouping -/
theorem C12_roundtrip (H : Ham) (n : Node) (hn : NamesInj H.tree H.naming) (hw : ExportWF H.tree n)
    (hh : n.isGene = false) :
    ∃ H' n', load H.tree H.naming (ihamExport H n) = .ok H' ∧
      H'.tops.map (·.2) = [n'] ∧
      Realises n.tx (spell false false n) n' ∧
      Realises n.tx (spell false false n) (stripNode n) :=
  Pyham.C12_roundtrip H n hn hw hh

/-- the hypothesis `ExportWF` holds for every top-level HOG of a well-formed analysis (and, hereditarily
    -- `HogFacts.sub` -- for every sub-HOG), in particular of every loaded consistent input -/
theorem C12_exportWF_of_wf (H : Ham) (hw : H.wf = true) (p : Option String × Node) (hp : p ∈ H.tops) :
    ExportWF H.tree p.2 := exportWF_of_wf H hw p hp

/-- the iHam page carries one family-data record per member gene -/
theorem C12_famdata (H : Ham) (n : Node) : (famData H n).map (·.id) = n.leaves := Pyham.C12_famdata H n

/-! ## C15 — lookups are coherent with listings and never ambiguous -/

theorem C15_gene_by_id (H : Ham) (hn : (H.genes.map (·.id)).Nodup) (g : GeneRec) (hg : g ∈ H.genes) :
    H.geneById g.id = .ok g := Pyham.C15_gene_by_id H hn g hg

theorem C15_hog_by_id (H : Ham) (hn : (H.tops.map (·.1)).Nodup) (id : String) (n : Node) (h : (some id, n) ∈ H.tops) :
    H.hogById id = .ok n := Pyham.C15_hog_by_id H hn id n h

theorem C15_unknown_keys (H : Ham) (id : String) :
    (id ∉ H.genes.map (·.id) → H.geneById id = .error .key) ∧
    (some id ∉ H.tops.map (·.1) → H.hogById id = .error .key) ∧
    ((∀ g ∈ H.genes, ∀ e ∈ g.xrefs, e.2 ≠ id) → H.genesByExternalId id = .error .key) :=
  ⟨C15_gene_unknown H id, C15_hog_unknown H id, C15_xref_unknown H id⟩

theorem C15_xref (H : Ham) (g : GeneRec) (hg : g ∈ H.genes) (k v : String) (hx : (k, v) ∈ g.xrefs) :
    ∃ ids, H.genesByExternalId v = .ok ids ∧ g.id ∈ ids := Pyham.C15_xref H g hg k v hx

/-- the genome returned as the common ancestor of a genome set lives at the deepest taxon that is an
    ancestor-or-self of all of them -/
theorem C15_mrca_set_lookup (H : Ham) (gs : List Taxon) (t : Taxon) (h : H.ancestralGenomeByMrca gs = .ok t) :
    (∀ g ∈ gs, t <:+ g) ∧ (∀ c, (∀ g ∈ gs, c <:+ g) → c <:+ t) ∧ t ∈ H.ancestralTaxa :=
  Pyham.C15_mrca_set_lookup H gs t h

/-- **genomes and taxa**: every listed ancestral genome is returned by its tree node and -- once the taxonomy was
    accepted -- by its name; every declared species is returned by its name; a name returns a taxon iff exactly one
    node carries it; the common ancestor of two genomes is returned for the pair; unknown species names raise KeyError -/
theorem C15_genome_lookups (H : Ham) :
    (∀ t ∈ H.ancestralTaxa, H.ancestralGenomeByTaxon t = .ok t) ∧
    (H.tree.namesOk H.naming = true → ∀ t ∈ H.ancestralTaxa, ∀ s, H.tree.nameAt H.naming t = some s →
        H.ancestralGenomeByName s = .ok t) ∧
    ((H.species.map (·.1)).Nodup → ∀ p ∈ H.species, H.extantGenomeByName p.1 = .ok p.2) ∧
    (∀ s, s ∉ H.species.map (·.1) → H.extantGenomeByName s = .error .key) ∧
    (∀ s p, H.taxonByName s = .ok p ↔ H.tree.findByName H.naming s = [p]) ∧
    (∀ g1 g2, g1 ≠ g2 → mrca2 g1 g2 ∈ H.ancestralTaxa → H.ancestralGenomeByMrca [g1, g2] = .ok (mrca2 g1 g2)) :=
  ⟨fun t ht => C15_ancestral_by_taxon H t ht, fun hok t ht s hs => C15_ancestral_by_name H hok t ht s hs,
   fun hn p hp => C15_extant_by_name H hn p hp, fun s h => C15_extant_unknown H s h,
   fun s p => C15_taxon_by_name H s p, fun g1 g2 hne ht => C15_mrca_lookup H g1 g2 hne ht⟩

theorem C15_never_ambiguous (T : STree) (nm : Naming) (h : taxonomyBuild T nm = .ok ()) (s : String) :
    (∀ p q, p ∈ T.leafTaxa → q ∈ T.leafTaxa → T.nameAt nm p = some s → T.nameAt nm q = some s → p = q) ∧
    (∀ p q, p ∈ T.internalTaxa → q ∈ T.internalTaxa → T.nameAt nm p = some s → T.nameAt nm q = some s → p = q) :=
  Pyham.C15_never_ambiguous T nm h s

theorem C15_ambiguous_rejected (T : STree) (nm : Naming)
    (h : ¬ (T.leafTaxa.filterMap (T.nameAt nm)).Nodup ∨ ¬ (T.internalTaxa.filterMap (T.nameAt nm)).Nodup) :
    taxonomyBuild T nm = .error .key := Pyham.C15_ambiguous_rejected T nm h

/-! ## C16 — navigation inside a family is self-consistent -/

theorem C16_navigation (n : Node) :
    n.hogs = n.nodes.filter (fun x => !x.isGene) ∧
    ((clusterBySpecies n).flatMap (·.2)).Perm n.leaves ∧
    ((clusterBySpecies n).map (·.1)).Nodup ∧
    descLevels n = n.hogs.map Node.tx :=
  ⟨hogs_eq_nodes_filter n, clusterBySpecies_perm n, clusterBySpecies_keys_nodup n, rfl⟩

theorem C16_top_level (top : Node) (l : Loc) (h : l ∈ locs [] top) : topOf l = top := topOf_locs top l h

theorem C16_get_at_level (top : Node) (l : Loc) (hl : l ∈ locs [] top) (g : Taxon) :
    (∀ r, getAtLevel l g = .ok r →
        r = top.nodes.filter (fun n => n.tx == g) ∧ r ≠ [] ∧ ∀ n ∈ r, n.key ≠ l.node.key) ∧
    (∀ e, getAtLevel l g = .error e →
        e = .key ∧ (top.nodes.filter (fun n => n.tx == g) = [] ∨
                    ∃ n ∈ top.nodes.filter (fun n => n.tx == g), n.key = l.node.key)) :=
  ⟨fun r h => getAtLevel_ok top l hl g r h, fun e h => getAtLevel_err top l hl g e h⟩

/-- for every ancestral genome of a well-formed analysis the ancestral clustering maps different HOGs
    to disjoint extant gene sets -/
theorem C16_clustering_disjoint (H : Ham) (hw : H.WFc) (t : Taxon) (e1 e2 : Node × List String)
    (h1 : e1 ∈ ancestralClustering H t) (h2 : e2 ∈ ancestralClustering H t) (hne : e1.1.key ≠ e2.1.key)
    (g : String) (hg1 : g ∈ e1.2) : g ∉ e2.2 :=
  Pyham.C16_clustering_disjoint H hw t e1 e2 h1 h2 hne g hg1

/-- C16 (ancestral clustering) for every loaded consistent input -/
theorem C16_on_loaded_consistent_input (D : Dataset) (hc : D.Consistent) :
    ∃ H, load D.T D.nm D.file = .ok H ∧
      ∀ t (e1 e2 : Node × List String), e1 ∈ ancestralClustering H t → e2 ∈ ancestralClustering H t →
        e1.1.key ≠ e2.1.key → ∀ g ∈ e1.2, g ∉ e2.2 :=
  Pyham.C16_on_loaded_consistent_input D hc

/-! ## C17 — analyses are read-only; results do not depend on call history -/

theorem C17_history_independent (H : Ham) (ops : List Op) :
    (run (SState.init H) ops).1.H = H ∧ (run (SState.init H) ops).2 = ops.map (answer H) :=
  Pyham.C17_history_independent H ops

/-- **several analyses, interleaved**: whatever the interleaving of calls on two analyses alive at once (built from the same
    inputs or not), both are unchanged at the end and every call returned what the same call returns on a freshly loaded copy
    of the analysis it was addressed to -/
theorem C17_interleaved (H1 H2 : Ham) (ops : List (Bool × Op)) :
    (run2 (SState.init H1) (SState.init H2) ops).2 = ops.map (fun p => answer (if p.1 then H2 else H1) p.2) ∧
    (run2 (SState.init H1) (SState.init H2) ops).1.1.H = H1 ∧
    (run2 (SState.init H1) (SState.init H2) ops).1.2.H = H2 :=
  Pyham.C17_interleaved H1 H2 ops

/-- **the only permitted side effect**: after any call sequence every genome that existed after loading is still
    listed, and every other listed genome (created lazily by a lateral comparison or a tree profile) is empty.
    The hypothesis holds for every loaded analysis (`C17_loaded_genes_in_species`). -/
theorem C17_listing (H : Ham) (hg : H.genesInSpecies) (ops : List Op) :
    (∀ t ∈ H.initialGenomes, t ∈ (run (SState.init H) ops).1.listing) ∧
    (∀ t ∈ (run (SState.init H) ops).1.listing, t ∉ H.initialGenomes → H.genomeSize t = 0) :=
  Pyham.C17_listing H hg ops

theorem C17_loaded_genes_in_species (T : STree) (nm : Naming) (inp : Input) (H : Ham) (h : load T nm inp = .ok H) :
    H.genesInSpecies := load_genesInSpecies T nm inp H h

/-! ## C18 — the taxonomy names, measures and serialises the tree faithfully -/

theorem C18_path_up (lo anc : Taxon) (h : anc <:+ lo) (hne : anc ≠ lo) :
    pathUp lo anc = (List.range' 1 (lo.length - anc.length - 1)).map (fun k => lo.drop k) :=
  pathUp_spec lo anc h hne

theorem C18_taxa_and_depth (T : STree) :
    (∀ p, p ∈ T.allTaxa ↔ (T.sub p).isSome = true) ∧ T.allTaxa.Nodup ∧
    (∀ i p, (i :: p) ∈ T.allTaxa → p ∈ T.allTaxa) :=
  ⟨mem_allTaxa_iff T, allTaxa_nodup T, fun i p h => up_mem_allTaxa T i p h⟩

theorem C18_names (T : STree) : T.leafNames = (T.leafTaxa).filterMap (fun p => (T.sub p).map STree.name) :=
  leafNames_eq T

theorem C18_duplicate_leaf_names_rejected (T : STree) (nm : Naming)
    (h : ¬ (T.leafTaxa.filterMap (T.nameAt nm)).Nodup) : taxonomyBuild T nm = .error .key :=
  Pyham.C15_ambiguous_rejected T nm (Or.inl h)

/-- the stored Newick text re-parses to the same named topology, polytomies included: for every tree
    (any arity and shape) whose names -- the tree's own or the synthesised ones -- contain none of
    `( ) , ;` (in particular names over letters, digits, space, `_ - . /`), reading what the taxonomy wrote
    gives back the named tree (for the model's writer / reader pair) -/
theorem C18_newick_roundtrip (nm : Naming) (T : STree) (hc : (STree.named nm T).namesClean = true) :
    parseNewick (T.newick nm) = some (STree.named nm T) :=
  Pyham.C18_newick_roundtrip nm T hc

theorem C18_alphabet_clean (c : Char) (h : c.isAlphanum = true ∨ c = ' ' ∨ c = '_' ∨ c = '-' ∨ c = '.' ∨ c = '/') :
    isNameChar c = true := alphabet_clean c h

/-! ## C19 — annotations stay attached to the object they annotate -/

/-- for every consistent file: the HOG created for a written group carries exactly that group's id,
    scores and properties (label first, then the annotation elements in file order, later entries with
    the same key overwriting) -- never those of another group; every HOG synthesised for a skipped level
    or for the level of a duplication carries none; genes keep their LOFT ids (`RealisesA`) -/
theorem C19_annotations (env : Env) (fams : List (Taxon × SL))
    (hf : ∀ f ∈ fams, isWrittenGrp f.2 = true ∧ wfh env.T f.1 f.2 = true ∧ recoverable f.1 f.2 = true ∧
      Declared env f.1 f.2 ∧ (genesOf f.2).Nodup)
    (hn : NamesInj env.T env.nm) :
    ∃ tops ps, topElems env none (fams.flatMap fun f => encode env.T env.nm f.1 f.2) [] {} = .ok (tops, ps) ∧
      tops.length = fams.length ∧
      ∀ i (h1 : i < tops.length) (h2 : i < fams.length), RealisesA env.T env.nm (fams[i]).1 (fams[i]).2 tops[i] :=
  Pyham.C19_load_annotations env fams hf hn

/-! ## C20 — dangling references are rejected, never silently dropped -/

theorem C20_species_fault_rejected (T : STree) (nm : Naming) (inp : Input) (s : Species)
    (hs : s ∈ inp.species) (e : Err) (h : resolveSpecies T nm s.name = .error e) :
    ∃ err, load T nm inp = .error err := Pyham.C20_species_fault_rejected T nm inp s hs e h

theorem C20_group_fault_rejected (T : STree) (nm : Naming) (inp : Input)
    (h : faultyL (fun id => (inp.species.flatMap (fun s => s.genes.map (·.id))).contains id) inp.groups = true) :
    ∃ err, load T nm inp = .error err := Pyham.C20_group_fault_rejected T nm inp h
/-- ... also when a filter is active: a fault (dangling reference, empty group) inside a SELECTED family makes the
    filtered load fail -- nothing is skipped because a filter is in use -/
theorem C20_filtered_fault_rejected (T : STree) (nm : Naming) (inp : Input) (f : Filter)
    (hog : inp.groups.all isOgWithId = true) (gids hids : List String)
    (hf : filterTops f inp.groups (filterGenes f inp.species, []) = .ok (gids, hids))
    (hfault : faultyL (fun id => ((projectInput inp gids.contains hids).species.flatMap
        (fun s => s.genes.map (·.id))).contains id) (projectInput inp gids.contains hids).groups = true) :
    ∃ err, loadFiltered T nm inp f = .error err :=
  Pyham.C20_filtered_fault_rejected T nm inp f hog gids hids hf hfault

/-- the same in `species_resolve_mode="OMA"` (a clade named as species is attached to its only child that looks
    like an OMA species code): a species element whose resolved name is not exactly one leaf is rejected -/
theorem C20_oma_species_fault_rejected (T : STree) (nm : Naming) (inp : Input) (s : Species)
    (hs : s ∈ inp.species) (e : Err) (h : resolveSpecies T nm (omaName T nm s.name) = .error e) :
    ∃ err, loadOMA T nm inp = .error err := Pyham.C20_oma_species_fault_rejected T nm inp s hs e h

/-- ... and the mode changes nothing for files whose species all name leaves of the tree -/
theorem C20_oma_mode_conservative (T : STree) (nm : Naming) (inp : Input)
    (h : ∀ s ∈ inp.species, ∃ p, T.findByName nm s.name = [p] ∧ T.isLeafAt p = true) :
    loadOMA T nm inp = load T nm inp := loadOMA_eq_load_of_leaves T nm inp h

/-! ## The loader as pyham runs it: a stack machine over SAX events (C01–C04, C11, C20)

  `Model/Sax.lean` transcribes `OrthoXMLParser.start` / `.end` call by call with `hog_stack` explicit.  The theorems
  below say that this machine, run over the event stream of a document, is the recursive loader every other theorem
  is about; the harness compares the machine with the real parser object in lock step (tag `saxtr`). -/

/-- the stack machine run over the events of the <groups> section ends, with an empty `hog_stack` and skip mode off, in
    exactly the families and parser state of the recursive loader -- or raises the same exception (any filter) -/
theorem C03_stack_machine_is_loader (env : Env) (flt : HogFilter) (groups : List Elem) :
    Sax.runEvents env flt (Sax.eventsL groups) {} =
      (topElems env flt groups [] {}).map fun r => { hstack := [], skip := 0, tops := r.1, ps := r.2 } :=
  Sax.sax_groups env flt groups

/-- the streaming load is the load: every theorem about `load` is a theorem about the event-driven parser -/
theorem C03_streaming_load_is_load (T : STree) (nm : Naming) (inp : Input) :
    Sax.loadSax T nm inp = load T nm inp := Sax.buildHamSax_eq T nm inp _ none

/-- ... also with a filter: skip mode (placeholders pushed on `hog_stack`, every call ignored until the matching end)
    is the recursive loader stepping over the unselected family -/
theorem C11_streaming_filtered_load (T : STree) (nm : Naming) (inp : Input) (f : Filter) :
    Sax.loadFilteredSax T nm inp f = loadFiltered T nm inp f := by
  unfold Sax.loadFilteredSax loadFiltered
  simp only [bind]
  cases filterTops f inp.groups (filterGenes f inp.species, []) with
  | error e => rfl
  | ok r => simp only [Except.bind]; exact Sax.buildHamSax_eq T nm inp _ _

/-- the FIRST pass of a filtered load (`FilterOrthoXMLParser`, again a parser target with a stack and flags) run over the same
    event stream selects exactly the gene ids and family ids of the recursive first pass, in the same order, and ends in its
    initial control state -- for every file without a geneRef outside every orthologGroup (the second pass rejects those) -/
theorem C11_first_pass_machine (f : Filter) (groups : List Elem) (gids : List String)
    (h : Sax.noTopRefL groups = true) :
    Sax.frun f (Sax.eventsL groups) { gids := gids } =
      (filterTops f groups (gids, [])).map fun r => { gids := r.1, hids := r.2 } :=
  Sax.f_groups f groups gids h

/-- **the whole document, in the order of the file**: species sections and the groups section as the calls arrive, every
    geneRef resolved against the declarations read so far -- the parser object ends in the analysis the recursive `buildHam`
    returns (filtered or not), or fails with the same exception -/
theorem C01_document_machine_is_load (T : STree) (nm : Naming) (inp : Input) (keep : String → Bool) (flt : HogFilter) :
    (Sax.drun T nm keep flt (Sax.spEvents inp.species ++ (Sax.eventsL inp.groups).map .grp) {}).map (Sax.DS.ham T nm) =
      buildHam T nm inp keep flt :=
  Sax.doc_machine_is_load T nm inp keep flt

/-- ... and over the whole document: the <gene> elements select gene ids as they are read, then the groups section -/
theorem C11_first_pass_document (f : Filter) (inp : Input) (h : Sax.noTopRefL inp.groups = true) :
    Sax.fdrun f (Sax.spEvents inp.species ++ (Sax.eventsL inp.groups).map .grp) { gids := [] } =
      (filterTops f inp.groups (filterGenes f inp.species, [])).map fun r => { gids := r.1, hids := r.2 } :=
  Sax.f_document f inp h

/-- **species sections after the groups section** (legal orthoXML; pyham reads the file once, front to back): the document
    `early species … groups … late species` ends in the analysis the recursive load of (all species, groups) returns, provided
    every species section is valid and no gene declared in a late section is referenced by a group -/
theorem C01_species_after_groups (T : STree) (nm : Naming) (keep : String → Bool) (flt : HogFilter)
    (early late : List Species) (groups : List Elem) (all : List GeneRec)
    (hall : declareSpecies T nm keep (early ++ late) [] = .ok all)
    (hlate : ∀ id ∈ refsOfL groups, ∀ s ∈ late, ∀ g ∈ s.genes, g.id ≠ id) :
    (Sax.drun T nm keep flt (Sax.spEvents early ++ ((Sax.eventsL groups).map .grp ++ Sax.spEvents late)) {}).map (Sax.DS.ham T nm) =
      buildHam T nm { species := early ++ late, groups := groups } keep flt :=
  Sax.late_species_load T nm keep flt early late groups all hall hlate

/-- ... and the hypothesis is needed (kernel-evaluated): a member declared only AFTER the groups section is a KeyError for
    the streaming loader, while the recursive model, which reads the species sections first, loads the file.  This is where
    the recursive model is NOT the code; the harness writes late species sections with unreferenced genes only. -/
theorem C01_species_after_groups_needs_unreferenced :
    let T : STree := .node "R" [.node "A" [], .node "B" []]
    let early : List Species := [{ name := "A", genes := [{ id := "a1", xrefs := [] }] }]
    let late : List Species := [{ name := "B", genes := [{ id := "b1", xrefs := [] }] }]
    let groups : List Elem := [.og (some "1") none [.ref "a1" none, .ref "b1" none]]
    (match Sax.drun T .own (fun _ => true) none (Sax.spEvents early ++ ((Sax.eventsL groups).map .grp ++ Sax.spEvents late)) {} with
      | .error .key => true | _ => false) = true ∧
    (match buildHam T .own { species := early ++ late, groups := groups } (fun _ => true) none with
      | .ok _ => true | .error _ => false) = true := by
  decide

/-- wherever in the stream the fault occurs: once a call raises, the run has failed with that exception, whatever follows
    (nothing after the faulty call is read, no state is returned) -/
theorem C20_stream_stops_at_fault (env : Env) (flt : HogFilter) (before after : List Sax.Ev) (m : Sax.MS) (e : Err)
    (h : Sax.runEvents env flt before m = .error e) : Sax.runEvents env flt (before ++ after) m = .error e := by
  rw [Sax.runEvents_append, h]; rfl

/-- the lock-step trace: it ends in an exception exactly when the run does, with the same exception; while the run
    succeeds there is one observation per call, the observation of the machine state after that call -/
theorem C03_trace_is_the_run (env : Env) (flt : HogFilter) (es : List Sax.Ev) (m : Sax.MS) :
    (Sax.trace env flt es m).2 = (match Sax.runEvents env flt es m with | .ok _ => none | .error e => some e) ∧
    ∀ k m', k < es.length → Sax.runEvents env flt (es.take (k + 1)) m = .ok m' → (Sax.trace env flt es m).1[k]? = some m'.obs :=
  ⟨Sax.trace_end env flt es m, fun k m' hk h => Sax.trace_obs env flt es m k m' h hk⟩

end Pyham.Props
