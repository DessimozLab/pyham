/-
  Non-vacuity: concrete, non-trivial objects that meet the hypotheses of the property theorems.

  `simpleEx` is the repository's own fixture tests/data/simpleEx.orthoxml over tests/data/simpleEx.nwk
  (6 species, 3 families, 19 genes, one duplication), written as spelled histories; the harness checks
  on every run that `simpleEx.file` is literally the fixture (up to the position of the TaxRange
  property among the annotation elements of a group).  `elided` is a second dataset exercising what the
  fixture does not contain: elided levels, a duplication below a skipped level, a group whose only
  content is a paralog group, a polytomy.  The last part instantiates, on these two datasets, the hypotheses
  of C03, C07 and C17 and evaluates the history-level counts of C06 / C09 (they are not all zero), and gives
  a small document that meets the hypotheses of `C01_species_after_groups`.
-/
import PyhamModel.Lemmas.CapstoneWF
import PyhamModel.Lemmas.Compose
import PyhamModel.Model.Sax
import PyhamModel.Lemmas.SessionLemmas
import PyhamModel.Lemmas.HistoryProfile
import PyhamModel.Lemmas.LeafProfile
namespace Pyham.Witness
open Pyham

/-- (XENTR,(((HUMAN,PANTR)Primates,(MOUSE,RATNO)Rodents)Euarchontoglires,CANFA)Mammalia)Vertebrata; -/
def simpleTree : STree :=
  .node "Vertebrata" [.node "XENTR" [],
    .node "Mammalia" [.node "Euarchontoglires" [.node "Primates" [.node "HUMAN" [], .node "PANTR" []],
                                                 .node "Rodents" [.node "MOUSE" [], .node "RATNO" []]],
                      .node "CANFA" []]]

/-! ### a decidable criterion for `Dataset.Consistent` -/

/-- pairwise distinct node names make the naming unambiguous -/
theorem namesInj_of_nodup (T : STree) (nm : Naming) (h : (T.allTaxa.filterMap (T.nameAt nm)).Nodup) :
    NamesInj T nm := by
  intro t t' s ht ht'
  have mem : ∀ p, T.nameAt nm p = some s → p ∈ T.allTaxa := by
    intro p hp
    rw [mem_allTaxa_iff]
    unfold STree.nameAt at hp
    cases hs : T.sub p with
    | none => rw [hs] at hp; cases hp
    | some _ => rfl
  exact filterMap_nodup_inj _ _ h t t' (mem t ht) (mem t' ht') s ht ht'

/-- the species name resolves to the leaf `p` -/
def resolvesTo (T : STree) (nm : Naming) (name : String) (p : Taxon) : Bool :=
  match resolveSpecies T nm name with
  | .ok q => q == p
  | .error _ => false

theorem resolvesTo_ok {T : STree} {nm : Naming} {name : String} {p : Taxon}
    (h : resolvesTo T nm name p = true) : resolveSpecies T nm name = .ok p := by
  unfold resolvesTo at h
  split at h
  · rename_i q hq
    rw [hq, beq_iff_eq.mp h]
  · cases h

def resolves (T : STree) (nm : Naming) (name : String) : Bool :=
  match resolveSpecies T nm name with
  | .ok _ => true
  | .error _ => false

theorem resolves_ok {T : STree} {nm : Naming} {name : String}
    (h : resolves T nm name = true) : ∃ p, resolveSpecies T nm name = .ok p := by
  unfold resolves at h
  split at h
  · rename_i q hq
    exact ⟨q, hq⟩
  · cases h

/-- `Dataset.Consistent` as one executable check -/
structure Check (D : Dataset) : Prop where
  names : (D.T.allTaxa.filterMap (D.T.nameAt D.nm)).Nodup
  species_ok : (D.species.all fun s => resolves D.T D.nm s.name) = true
  fams_ok : (D.fams.all fun f => isWrittenGrp f.2 && wfh D.T f.1 f.2 && recoverable f.1 f.2) = true
  genes_nodup : (D.species.flatMap fun s => s.genes.map (·.id)).Nodup
  refs_nodup : (D.fams.flatMap fun f => genesOf f.2).Nodup
  declared : (D.fams.all fun f => (geneTaxaSL f.1 f.2).all fun e =>
    D.species.any fun s => resolvesTo D.T D.nm s.name e.2 && (s.genes.map (·.id)).contains e.1) = true
  top_ids : (D.fams.map fun f => topHid f.2).Nodup

theorem Check.consistent {D : Dataset} (c : Check D) : D.Consistent where
  names := namesInj_of_nodup _ _ c.names
  species_ok := fun s hs => resolves_ok (List.all_eq_true.mp c.species_ok s hs)
  fams_ok := fun f hf => by
    have := List.all_eq_true.mp c.fams_ok f hf
    simp only [Bool.and_eq_true] at this
    exact ⟨this.1.1, this.1.2, this.2⟩
  genes_nodup := c.genes_nodup
  refs_nodup := c.refs_nodup
  declared := fun f hf e he => by
    have := List.all_eq_true.mp (List.all_eq_true.mp c.declared f hf) e he
    obtain ⟨s, hs, h⟩ := List.any_eq_true.mp this
    simp only [Bool.and_eq_true] at h
    exact ⟨s, hs, resolvesTo_ok h.1, by simpa using h.2⟩
  top_ids := c.top_ids

/-! ### a printer for the abstract syntax of `<groups>` (format of the harness' fixture dump) -/

def optText : Option String → String
  | none => "None"
  | some s => "'" ++ s ++ "'"

mutual
def elemText : Elem → String
  | .ref id _ => "(ref " ++ id ++ ")"
  | .score id v => "(score " ++ id ++ " " ++ v ++ ")"
  | .prop n v => "(prop " ++ n ++ " " ++ v ++ ")"
  | .og hid og its => "(og " ++ optText hid ++ " " ++ optText og ++ elemsText its ++ ")"
  | .pg pgid its => "(pg " ++ optText pgid ++ elemsText its ++ ")"
def elemsText : List Elem → String
  | [] => ""
  | e :: es => " " ++ elemText e ++ elemsText es
end

/-! ### the repository fixture `simpleEx` -/

def gd (id prot gene : String) : GeneDecl := { id := id, xrefs := [("protId", prot), ("geneId", gene)] }

def simpleSpecies : List Species :=
  [ { name := "HUMAN", genes := [gd "1" "HUMAN1" "HUMANg1", gd "2" "HUMAN2" "HUMANg2",
                                  gd "3" "HUMAN3" "HUMANg3", gd "5" "HUMAN5" "HUMANg5"] },
    { name := "PANTR", genes := [gd "11" "PANTR1" "PANTRg1", gd "12" "PANTR2" "PANTRg2",
                                  gd "13" "PANTR3" "PANTRg3", gd "14" "PANTR4" "PANTRg4"] },
    { name := "CANFA", genes := [gd "21" "CANFA1" "CANFAg1", gd "22" "CANFA2" "CANFAg2",
                                  gd "23" "CANFA3" "CANFAg3"] },
    { name := "MOUSE", genes := [gd "31" "MOUSE1" "MOUSEg1", gd "32" "MOUSE2" "MOUSEg2",
                                  gd "33" "MOUSE3" "MOUSEg3", gd "34" "MOUSE4" "MOUSEg4"] },
    { name := "RATNO", genes := [gd "41" "RATNO1" "RATNOg1", gd "43" "RATNO3" "RATNOg3"] },
    { name := "XENTR", genes := [gd "51" "XENTR1" "XENTRg1", gd "53" "XENTR3" "XENTRg3"] } ]

/-- a written, labelled group -/
abbrev og (id : String) (subs : List Sub) : SL := .grp true (some id) true subs
/-- a level the file does not write -/
abbrev skip (subs : List Sub) : SL := .grp false none false subs
abbrev ref (id : String) : SL := .gene id none
abbrev score (id v : String) : Sub := .ann (.score id v)

/-- family 1, at Vertebrata -/
def fam1 : SL :=
  og "1" [score "consistency" "1.0",
    .one 0 (ref "51"),
    .one 1 (og "1.M" [score "coverage" "0.84", score "consistency" "0.932",
      .one 1 (ref "21"),
      .one 0 (og "1.M.E" [score "consistency" "1.0",
        .one 0 (og "1.M.E.P" [score "coverage" "1.0", .one 0 (ref "1"), .one 1 (ref "11")]),
        .one 1 (og "1.M.E.R" [.one 0 (ref "31"), .one 1 (ref "41")])])])]

/-- family 2, at Mammalia; MOUSE 32 sits directly in the Euarchontoglires group (Rodents level elided) -/
def fam2 : SL :=
  og "2" [
    .one 1 (ref "22"),
    .one 0 (og "2.E" [
      .one 0 (og "2.E.P" [.one 0 (ref "2"), .one 1 (ref "12")]),
      .one 1 (skip [.one 0 (ref "32")])])]

/-- family 3, at Vertebrata; one duplication on the branch Mammalia → Euarchontoglires -/
def fam3 : SL :=
  og "3" [
    .one 0 (ref "53"),
    .one 1 (og "3.M" [
      .one 1 (ref "23"),
      .dup 0 none [
        og "3.E.1" [
          .one 1 (skip [.one 0 (ref "33")]),
          .one 0 (og "3.E.1.P" [.one 0 (ref "3"), .one 1 (ref "13")])],
        og "3.E.2" [score "coverage" "0.3",
          .one 1 (skip [.one 0 (ref "34")]),
          .one 0 (skip [.one 1 (ref "14")])]]])]

/-- tests/data/simpleEx.orthoxml over tests/data/simpleEx.nwk -/
def simpleEx : Dataset :=
  { T := simpleTree, nm := .own, species := simpleSpecies,
    fams := [([], fam1), ([1], fam2), ([], fam3)] }

/-- the `<groups>` of `simpleEx.file`, one line per top-level element -/
def simpleEx_groups_text : List String := simpleEx.file.groups.map elemText

/-- one lemma per line: kernel evaluation of `String` equality is quadratic in the length -/
theorem simpleEx_line1 : (encode simpleTree .own [] fam1).map elemText =
  ["(og '1' None (prop TaxRange Vertebrata) (score consistency 1.0) (ref 51) (og '1.M' None (prop TaxRange Mammalia) (score coverage 0.84) (score consistency 0.932) (ref 21) (og '1.M.E' None (prop TaxRange Euarchontoglires) (score consistency 1.0) (og '1.M.E.P' None (prop TaxRange Primates) (score coverage 1.0) (ref 1) (ref 11)) (og '1.M.E.R' None (prop TaxRange Rodents) (ref 31) (ref 41)))))"] := by
  decide +kernel

theorem simpleEx_line2 : (encode simpleTree .own [1] fam2).map elemText =
  ["(og '2' None (prop TaxRange Mammalia) (ref 22) (og '2.E' None (prop TaxRange Euarchontoglires) (og '2.E.P' None (prop TaxRange Primates) (ref 2) (ref 12)) (ref 32)))"] := by
  decide +kernel

theorem simpleEx_line3 : (encode simpleTree .own [] fam3).map elemText =
  ["(og '3' None (prop TaxRange Vertebrata) (ref 53) (og '3.M' None (prop TaxRange Mammalia) (ref 23) (pg None (og '3.E.1' None (prop TaxRange Euarchontoglires) (ref 33) (og '3.E.1.P' None (prop TaxRange Primates) (ref 3) (ref 13))) (og '3.E.2' None (prop TaxRange Euarchontoglires) (score coverage 0.3) (ref 34) (ref 14)))))"] := by
  decide +kernel

/-- the `<groups>` section of `simpleEx.file` is the fixture's (TaxRange property first in each group) -/
theorem simpleEx_groups_text_eq : simpleEx_groups_text =
  ["(og '1' None (prop TaxRange Vertebrata) (score consistency 1.0) (ref 51) (og '1.M' None (prop TaxRange Mammalia) (score coverage 0.84) (score consistency 0.932) (ref 21) (og '1.M.E' None (prop TaxRange Euarchontoglires) (score consistency 1.0) (og '1.M.E.P' None (prop TaxRange Primates) (score coverage 1.0) (ref 1) (ref 11)) (og '1.M.E.R' None (prop TaxRange Rodents) (ref 31) (ref 41)))))",
   "(og '2' None (prop TaxRange Mammalia) (ref 22) (og '2.E' None (prop TaxRange Euarchontoglires) (og '2.E.P' None (prop TaxRange Primates) (ref 2) (ref 12)) (ref 32)))",
   "(og '3' None (prop TaxRange Vertebrata) (ref 53) (og '3.M' None (prop TaxRange Mammalia) (ref 23) (pg None (og '3.E.1' None (prop TaxRange Euarchontoglires) (ref 33) (og '3.E.1.P' None (prop TaxRange Primates) (ref 3) (ref 13))) (og '3.E.2' None (prop TaxRange Euarchontoglires) (score coverage 0.3) (ref 34) (ref 14)))))"] := by
  simp only [simpleEx_groups_text, Dataset.file, simpleEx, List.flatMap_cons, List.flatMap_nil,
    List.map_append, List.map_nil, simpleEx_line1, simpleEx_line2, simpleEx_line3, List.cons_append,
    List.nil_append]

/-- the species section is the fixture's, in file order with the xref attributes in file order -/
example : simpleEx.file.species.map (fun s => (s.name, s.genes.map fun g => (g.id, g.xrefs))) =
  [("HUMAN", [("1", [("protId", "HUMAN1"), ("geneId", "HUMANg1")]), ("2", [("protId", "HUMAN2"), ("geneId", "HUMANg2")]), ("3", [("protId", "HUMAN3"), ("geneId", "HUMANg3")]), ("5", [("protId", "HUMAN5"), ("geneId", "HUMANg5")])]),
   ("PANTR", [("11", [("protId", "PANTR1"), ("geneId", "PANTRg1")]), ("12", [("protId", "PANTR2"), ("geneId", "PANTRg2")]), ("13", [("protId", "PANTR3"), ("geneId", "PANTRg3")]), ("14", [("protId", "PANTR4"), ("geneId", "PANTRg4")])]),
   ("CANFA", [("21", [("protId", "CANFA1"), ("geneId", "CANFAg1")]), ("22", [("protId", "CANFA2"), ("geneId", "CANFAg2")]), ("23", [("protId", "CANFA3"), ("geneId", "CANFAg3")])]),
   ("MOUSE", [("31", [("protId", "MOUSE1"), ("geneId", "MOUSEg1")]), ("32", [("protId", "MOUSE2"), ("geneId", "MOUSEg2")]), ("33", [("protId", "MOUSE3"), ("geneId", "MOUSEg3")]), ("34", [("protId", "MOUSE4"), ("geneId", "MOUSEg4")])]),
   ("RATNO", [("41", [("protId", "RATNO1"), ("geneId", "RATNOg1")]), ("43", [("protId", "RATNO3"), ("geneId", "RATNOg3")])]),
   ("XENTR", [("51", [("protId", "XENTR1"), ("geneId", "XENTRg1")]), ("53", [("protId", "XENTR3"), ("geneId", "XENTRg3")])])] := by
  decide +kernel

theorem simpleEx_check : Check simpleEx where
  names := by decide +kernel
  species_ok := by decide +kernel
  fams_ok := by decide +kernel
  genes_nodup := by decide +kernel
  refs_nodup := by decide +kernel
  declared := by decide +kernel
  top_ids := by decide +kernel

theorem simpleEx_consistent : simpleEx.Consistent := simpleEx_check.consistent

theorem simpleEx_loads : ∃ H, load simpleEx.T simpleEx.nm simpleEx.file = .ok H ∧ H.wf = true ∧
    H.regExact = true ∧ H.sizesExact = true :=
  loaded_consistent_wf simpleEx simpleEx_consistent

/-! ### a second dataset: elided levels, spilled paralogGroup, lift, polytomy -/

/-- (A,(B,C,D)X,(((E,F)W,H)Y,G)Z)R; — the root and X are polytomies.
    A = [0], X = [1], B = [0,1], C = [1,1], D = [2,1], Z = [2], Y = [0,2], W = [0,0,2], E = [0,0,0,2],
    F = [1,0,0,2], H = [1,0,2], G = [1,2] -/
def polyTree : STree :=
  .node "R" [.node "A" [],
    .node "X" [.node "B" [], .node "C" [], .node "D" []],
    .node "Z" [.node "Y" [.node "W" [.node "E" [], .node "F" []], .node "H" []], .node "G" []]]

def g (id : String) : GeneDecl := { id := id, xrefs := [("protId", "p" ++ id)] }

/-- G has no genes; "f9" and "b9" are in no family (singletons) -/
def polySpecies : List Species :=
  [ { name := "A", genes := [g "a1"] },
    { name := "B", genes := [g "b1", g "b9"] },
    { name := "C", genes := [g "c1"] },
    { name := "D", genes := [g "d1"] },
    { name := "E", genes := [g "e1", g "e2", g "e3"] },
    { name := "F", genes := [g "f1", g "f9"] },
    { name := "G", genes := [] },
    { name := "H", genes := [g "h1", g "h2"] } ]

/-- family at the root: C's gene sits directly in the root group (level X elided, a single-member
    level); the level Z is not written and carries a duplication on the branch to Y, so the
    paralogGroup spills into the root group; its copies are a written group at Y and a gene of E
    (levels Y and W elided) -/
def famP1 : SL :=
  og "P1" [score "s" "1",
    .one 0 (ref "a1"),
    .one 1 (skip [.one 1 (ref "c1")]),
    .one 2 (skip [.dup 0 none [
      og "P1.Ya" [
        .one 0 (og "P1.W" [.one 0 (ref "e1"), .one 1 (ref "f1")]),
        .one 1 (ref "h1")],
      skip [.one 0 (skip [.one 0 (ref "e2")])]]])]

/-- family rooted at Z (below the tree root), no TaxRange property: its only content is a
    paralogGroup whose copies are elided to different depths (a gene of E two levels down, a gene of H
    one level down); the MRCA rule alone would put the group at Y, the lift to the duplication's level
    puts it at Z -/
def famP2 : SL :=
  .grp true (some "P2") false [
    .dup 0 (some "7") [
      skip [.one 0 (skip [.one 0 (ref "e3")])],
      skip [.one 1 (ref "h2")]]]

/-- family at the polytomy X: C's branch is lost; a score and a non-TaxRange property -/
def famP3 : SL :=
  og "P3" [score "coverage" "0.5", .ann (.prop "note" "x"),
    .one 0 (ref "b1"),
    .one 2 (.gene "d1" (some "P3.1a"))]

def elided : Dataset :=
  { T := polyTree, nm := .own, species := polySpecies,
    fams := [([], famP1), ([2], famP2), ([1], famP3)] }

/-- what the file looks like -/
example : elided.file.groups.map elemText =
  ["(og 'P1' None (prop TaxRange R) (score s 1) (ref a1) (ref c1) (pg None (og 'P1.Ya' None (prop TaxRange Y) (og 'P1.W' None (prop TaxRange W) (ref e1) (ref f1)) (ref h1)) (ref e2)))",
   "(og 'P2' None (pg '7' (ref e3) (ref h2)))",
   "(og 'P3' None (prop TaxRange X) (score coverage 0.5) (prop note x) (ref b1) (ref d1))"] := by
  decide +kernel

/-- the lift is needed for family P2: the MRCA rule alone gives Y = [0,2], not Z = [2] -/
example : ∃ subs, famP2 = .grp true (some "P2") false subs ∧
    ruleLevel (appTaxaSubs [2] subs) [] = some [0, 2] ∧
    ruleLevel (appTaxaSubs [2] subs) (spillSubs [2] subs) = some [2] :=
  ⟨_, rfl, by decide, by decide⟩

theorem elided_check : Check elided where
  names := by decide +kernel
  species_ok := by decide +kernel
  fams_ok := by decide +kernel
  genes_nodup := by decide +kernel
  refs_nodup := by decide +kernel
  declared := by decide +kernel
  top_ids := by decide +kernel

theorem elided_consistent : elided.Consistent := elided_check.consistent

theorem elided_loads : ∃ H, load elided.T elided.nm elided.file = .ok H ∧ H.wf = true ∧
    H.regExact = true ∧ H.sizesExact = true :=
  loaded_consistent_wf elided elided_consistent

/-! ### the hypotheses of other theorems, met by these data -/

/-- C07: Mammalia = [1] is a proper ancestor of Primates = [0,0,1] -/
example : ([1] : Taxon) <:+ [0, 0, 1] ∧ ([1] : Taxon) ≠ [0, 0, 1] := by decide

/-- does the loaded analysis have a member strictly below `b`? -/
def hasMemberBelow (D : Dataset) (b : Taxon) : Bool :=
  match load D.T D.nm D.file with
  | .ok H => H.allLocs.any fun r => decide (b <:+ r.node.tx) && r.node.tx != b
  | .error _ => false

theorem member_below_of (D : Dataset) (b : Taxon) (h : hasMemberBelow D b = true) (H : Ham)
    (hl : load D.T D.nm D.file = .ok H) : ∃ r ∈ H.allLocs, b <:+ r.node.tx ∧ b ≠ r.node.tx := by
  unfold hasMemberBelow at h
  rw [hl] at h
  obtain ⟨r, hr, hb⟩ := List.any_eq_true.mp h
  simp only [Bool.and_eq_true, decide_eq_true_eq, bne_iff_ne, ne_eq] at hb
  exact ⟨r, hr, hb.1, fun e => hb.2 e.symm⟩

theorem simpleEx_member_below : hasMemberBelow simpleEx [0, 0, 1] = true := by decide +kernel

/-- every hypothesis of `C07_compose` is met on the loaded fixture with a = Mammalia, b = Primates and
    a member `r` of a genome below Primates -/
theorem simpleEx_C07_hyps : ∃ (H : Ham) (a b : Taxon) (r : Loc),
    load simpleEx.T simpleEx.nm simpleEx.file = .ok H ∧ H.WFc ∧ a <:+ b ∧ a ≠ b ∧ r ∈ H.allLocs ∧
      b <:+ r.node.tx ∧ b ≠ r.node.tx := by
  obtain ⟨H, hl, _, _, hw, _⟩ := loaded_consistent simpleEx simpleEx_consistent
  obtain ⟨r, hr, h1, h2⟩ := member_below_of simpleEx [0, 0, 1] simpleEx_member_below H hl
  exact ⟨H, [1], [0, 0, 1], r, hl, hw, by decide, by decide, hr, h1, h2⟩

/-- ... so its conclusion holds there -/
example : ∃ (H : Ham) (r : Loc), r ∈ H.allLocs ∧
    (∀ y g, search [0, 0, 1] r = (some y, g) →
        ∃ post, (⟨y, post⟩ : Loc) ∈ H.nodesAt [0, 0, 1] ∧
          search [1] r = ((search [1] ⟨y, post⟩).1, g || (search [1] ⟨y, post⟩).2)) := by
  obtain ⟨H, hl, _, _, hw, _⟩ := loaded_consistent simpleEx simpleEx_consistent
  obtain ⟨r, hr, h1, h2⟩ := member_below_of simpleEx [0, 0, 1] simpleEx_member_below H hl
  exact ⟨H, r, hr, (C07_compose H hw [1] [0, 0, 1] (by decide) (by decide) r hr h1 h2).1⟩

/-- the same on the second dataset: a = R, b = Y, a member below Y (inside the spilled duplication) -/
theorem elided_C07_hyps : ∃ (H : Ham) (a b : Taxon) (r : Loc),
    load elided.T elided.nm elided.file = .ok H ∧ H.WFc ∧ a <:+ b ∧ a ≠ b ∧ r ∈ H.allLocs ∧
      b <:+ r.node.tx ∧ b ≠ r.node.tx := by
  obtain ⟨H, hl, _, _, hw, _⟩ := loaded_consistent elided elided_consistent
  obtain ⟨r, hr, h1, h2⟩ := member_below_of elided [0, 2] (by decide +kernel) H hl
  exact ⟨H, [], [0, 2], r, hl, hw, by decide, by decide, hr, h1, h2⟩

/-- the environment of the C03 theorems for a dataset: every declared gene at the leaf its species resolves to (the
    loader builds this table in reverse order; with distinct ids the lookups agree) -/
def envOf (D : Dataset) : Env :=
  { T := D.T, nm := D.nm,
    geneTx := D.species.flatMap fun s =>
      match resolveSpecies D.T D.nm s.name with
      | .ok p => s.genes.map fun gd => (gd.id, p)
      | .error _ => [] }

/-- the family hypothesis `hf` of `C03_load_realises` for a consistent dataset whose gene table resolves every member -/
theorem C03_hf_of_consistent {D : Dataset} (hc : D.Consistent)
    (hd : ∀ f ∈ D.fams, ∀ e ∈ geneTaxaSL f.1 f.2, (envOf D).lookupGene e.1 = some e.2) :
    ∀ f ∈ D.fams, isWrittenGrp f.2 = true ∧ wfh (envOf D).T f.1 f.2 = true ∧ recoverable f.1 f.2 = true ∧
      Declared (envOf D) f.1 f.2 ∧ (genesOf f.2).Nodup := by
  intro f hf
  obtain ⟨h1, h2, h3⟩ := hc.fams_ok f hf
  exact ⟨h1, h2, h3, hd f hf, (List.pairwise_flatMap.mp hc.refs_nodup).1 f hf⟩

/-- C03: the hypotheses `hf`, `hn` of `C03_load_realises` for the families of the fixture -/
theorem simpleEx_C03_hf : ∀ f ∈ simpleEx.fams, isWrittenGrp f.2 = true ∧
    wfh (envOf simpleEx).T f.1 f.2 = true ∧ recoverable f.1 f.2 = true ∧
    Declared (envOf simpleEx) f.1 f.2 ∧ (genesOf f.2).Nodup :=
  C03_hf_of_consistent simpleEx_consistent (by decide +kernel)

theorem simpleEx_C03_hn : NamesInj (envOf simpleEx).T (envOf simpleEx).nm := simpleEx_consistent.names

example : ∃ tops ps, topElems (envOf simpleEx) none
      (simpleEx.fams.flatMap fun f => encode (envOf simpleEx).T (envOf simpleEx).nm f.1 f.2) [] {} = .ok (tops, ps) ∧
    tops.length = simpleEx.fams.length ∧
    ∀ i (h1 : i < tops.length) (h2 : i < simpleEx.fams.length),
      Realises (simpleEx.fams[i]).1 (simpleEx.fams[i]).2 tops[i] :=
  C03_load_realises (envOf simpleEx) simpleEx.fams simpleEx_C03_hf simpleEx_C03_hn

theorem elided_C03_hf : ∀ f ∈ elided.fams, isWrittenGrp f.2 = true ∧
    wfh (envOf elided).T f.1 f.2 = true ∧ recoverable f.1 f.2 = true ∧
    Declared (envOf elided) f.1 f.2 ∧ (genesOf f.2).Nodup :=
  C03_hf_of_consistent elided_consistent (by decide +kernel)

/-- C17 (`C17_history_independent`) has no hypotheses; on the loaded fixture it reads -/
example (ops : List Op) : ∃ H, load simpleEx.T simpleEx.nm simpleEx.file = .ok H ∧
    (run (SState.init H) ops).1.H = H ∧ (run (SState.init H) ops).2 = ops.map (answer H) := by
  obtain ⟨H, hl, _⟩ := simpleEx_loads
  exact ⟨H, hl, C17_history_independent H ops⟩

/-- non-vacuity of `C09_profile_numbers_are_the_history`: the repository's fixture has one duplication event with two
    copies on the branch into Euarchontoglires ([0, 1]), the second witness two events with four copies on the branch into Y -/
theorem history_counts_nonzero :
    (simpleEx.fams.map fun f => copiesInto [0, 1] f.1 f.2).sum = 2 ∧
    (simpleEx.fams.map fun f => eventsInto [0, 1] f.1 f.2).sum = 1 ∧
    (elided.fams.map fun f => copiesInto [0, 2] f.1 f.2).sum = 4 ∧
    (elided.fams.map fun f => eventsInto [0, 2] f.1 f.2).sum = 2 := by decide

/-- non-vacuity of `C09_leaf_profile_from_dataset`: in the repository's fixture HUMAN ([0,0,0,1]) declares four genes of
    which gene 5 is in no family, RATNO declares two of which 43 is in no family; the second witness likewise -/
theorem leaf_counts_nonzero :
    simpleTree.isLeafAt [0, 0, 0, 1] = true ∧
    (simpleEx.declaredAt [0, 0, 0, 1]).length = 4 ∧ simpleEx.unreferencedAt [0, 0, 0, 1] = ["5"] ∧
    (simpleEx.declaredAt [1, 1, 0, 1]).length = 2 ∧ simpleEx.unreferencedAt [1, 1, 0, 1] = ["43"] ∧
    (elided.declaredAt [0, 1]).length = 2 ∧ elided.unreferencedAt [0, 1] = ["b9"] := by decide +kernel

/-- non-vacuity of `C06_gained_count_is_the_history`: in the repository's fixture one family starts strictly below the root
    (at [1]) and has one lineage there; in the second witness two such lineages cross [0, 2]; families that reach `a` count 0 -/
theorem gained_counts_nonzero :
    simpleTree.isInternalAt [1] = true ∧
    (simpleEx.fams.map fun f => if f.1.isSuffixOf [] then 0 else lineagesAt [1] f.1 f.2).sum = 1 ∧
    (simpleEx.fams.map fun f => if f.1.isSuffixOf [1] then 0 else lineagesAt [0, 1] f.1 f.2).sum = 0 ∧
    elided.T.isInternalAt [0, 2] = true ∧
    (elided.fams.map fun f => if f.1.isSuffixOf [] then 0 else lineagesAt [0, 2] f.1 f.2).sum = 2 := by decide +kernel

/-- non-vacuity of `C06_lost_count_is_the_history`: evaluated on the two witness datasets (in the second one a lineage at [0, 2] is extinct at [0, 0, 2]) -/
theorem lost_counts_evaluated :
    (simpleEx.fams.map fun f => extinctAt [] [1] f.1 f.2).sum = 0 ∧
    (elided.fams.map fun f => extinctAt [0, 2] [0, 0, 2] f.1 f.2).sum = 1 ∧
    (elided.fams.map fun f => extinctAt [] [0, 0, 2] f.1 f.2).sum = 0 := by decide +kernel

/-- non-vacuity of `C06_reported_count_is_the_history`: on the repository's fixture the branch root → [0, 1] carries duplicated
    copies, and duplicated + retained = the lineages at [0, 1] of the families that reach the root -/
theorem reported_counts_evaluated :
    (simpleEx.fams.map fun f => reportedAt true [] [0, 1] f.1 none f.2).sum +
      (simpleEx.fams.map fun f => reportedAt false [] [0, 1] f.1 none f.2).sum =
      (simpleEx.fams.map fun f => if f.1.isSuffixOf [] then lineagesAt [0, 1] f.1 f.2 else 0).sum ∧
    0 < (simpleEx.fams.map fun f => reportedAt true [] [0, 1] f.1 none f.2).sum := by decide +kernel

/-- non-vacuity of `C01_species_after_groups`: a document whose last species section (declaring an unreferenced gene) follows
    the groups section meets both hypotheses -- every section resolves, no late gene is referenced -- and the streaming run of
    that document succeeds -/
theorem late_species_hypotheses_met :
    let T : STree := .node "R" [.node "A" [], .node "B" []]
    let early : List Species := [{ name := "A", genes := [{ id := "a1", xrefs := [] }, { id := "a2", xrefs := [] }] }]
    let late : List Species := [{ name := "B", genes := [{ id := "b9", xrefs := [] }] }]
    let groups : List Elem := [.og (some "1") none [.pg none [.ref "a1" none, .ref "a2" none]]]
    (match declareSpecies T .own (fun _ => true) (early ++ late) [] with | .ok all => all.length == 3 | .error _ => false) = true ∧
    ((refsOfL groups).all fun id => late.all fun s => s.genes.all fun g => g.id != id) = true ∧
    (match Sax.drun T .own (fun _ => true) none (Sax.spEvents early ++ ((Sax.eventsL groups).map .grp ++ Sax.spEvents late)) {} with
      | .ok d => d.genes.length == 3 && d.ms.tops.length == 1 | .error _ => false) = true := by
  decide +kernel

end Pyham.Witness
