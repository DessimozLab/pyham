/-
  Paralog discipline: two different members of one genome that descend from the same ancestral
  gene are both separated from it by a duplication.  This is what makes the RETAINED dictionary
  free of overwrites and RETAINED / DUPLICATE keys disjoint (C05).
-/
import PyhamModel.Lemmas.Locs
namespace Pyham

theorem disciplined_two_kids {n k1 k2 : Node} (hd : n.disciplined = true) (h1 : k1 ∈ n.kids) (h2 : k2 ∈ n.kids)
    (hne : k1 ≠ k2) (htx : k1.tx = k2.tx) : flagged k1 = true ∧ flagged k2 = true := by
  have alone : ∀ k ∈ n.kids, k.tx = k1.tx → flagged k = true := by
    intro k hk hkt
    have := (disciplined_kid hd hk).1
    rw [aloneIfUnflagged, Bool.or_eq_true, beq_iff_eq, hkt] at this
    -- were `k` alone at its taxon, `k1` and `k2` would both be that one child
    refine this.resolve_right fun hlen => ?_
    obtain ⟨a, ha⟩ := List.length_eq_one_iff.1 hlen
    have m1 : k1 ∈ n.kids.filter fun k' => k'.tx == k1.tx := List.mem_filter.2 ⟨h1, beq_self_eq_true _⟩
    have m2 : k2 ∈ n.kids.filter fun k' => k'.tx == k1.tx := List.mem_filter.2 ⟨h2, beq_iff_eq.2 htx.symm⟩
    rw [ha, List.mem_singleton] at m1 m2
    exact hne (m1.trans m2.symm)
  exact ⟨alone k1 h1 rfl, alone k2 h2 htx.symm⟩

/-- the flags met on the way from a located node up to (not including) the root `n` of the subtree
    it was located in: the node's own flag and the flags of `l.anc` before `anc` starts -/
def flagsTo (anc : List Node) (l : Loc) : Bool :=
  flagged l.node || (l.anc.take (l.anc.length - anc.length - 1)).any flagged

theorem flagsTo_of_anc {l : Loc} {pre : List Node} {x : Node} {post : List Node} (h : l.anc = pre ++ x :: post) :
    flagsTo post l = (flagged l.node || pre.any flagged) := by
  have : l.anc.length - post.length - 1 = pre.length := by
    rw [h, List.length_append, List.length_cons]
    omega
  rw [flagsTo, this, h, List.take_left' rfl]

/-- below a child `k` of `n`, the way up to `n` is the way up to `k` and then `k` -/
theorem flagsTo_kid {anc : List Node} {n k : Node} {l : Loc} (hl : l ∈ locs (n :: anc) k) :
    flagsTo anc l = (flagsTo (n :: anc) l || flagged k) := by
  rcases locs_anc_cases k _ l hl with rfl | ⟨q, hq⟩
  · rw [flagsTo_of_anc (pre := []) rfl]
    simp [flagsTo]
  · have hq' : l.anc = (q ++ [k]) ++ n :: anc := by
      rw [← hq, List.append_assoc]
      rfl
    rw [flagsTo_of_anc hq.symm, flagsTo_of_anc hq', List.any_append, List.any_cons, List.any_nil, Bool.or_false,
      Bool.or_assoc]

theorem two_at_same_taxon_flagged (n : Node) (anc : List Node) (ha : n.aligned = true) (hd : n.disciplined = true) :
    ∀ l1 ∈ locs anc n, ∀ l2 ∈ locs anc n, l1 ≠ l2 → l1.node.tx = l2.node.tx →
      flagsTo anc l1 = true ∧ flagsTo anc l2 = true := by
  -- a proper descendant lives strictly below the root
  have below : ∀ {anc n k l}, n.aligned = true → k ∈ n.kids → l ∈ locs (n :: anc) k →
      n.tx.length < l.node.tx.length := by
    intro anc n k l ha hk hl
    obtain ⟨⟨i, hi⟩, hka⟩ := aligned_kid ha hk
    have := (locs_tx_suffix k _ hka l hl).length_le
    rw [hi, List.length_cons] at this
    omega
  intro l1 h1
  refine locs_induction (P := fun anc n l1 => n.aligned = true → n.disciplined = true →
    ∀ l2 ∈ locs anc n, l1 ≠ l2 → l1.node.tx = l2.node.tx → flagsTo anc l1 = true ∧ flagsTo anc l2 = true)
    ?_ ?_ n anc l1 h1 ha hd
  · intro anc n ha _ l2 h2 hne htx
    rcases mem_locs.1 h2 with rfl | ⟨k, hk, hl⟩
    · exact absurd rfl hne
    · have := below ha hk hl
      rw [← htx] at this
      exact absurd this (Nat.lt_irrefl _)
  · intro anc n k1 l1 hk1 hl1 ih ha hd l2 h2 hne htx
    rcases mem_locs.1 h2 with rfl | ⟨k2, hk2, hl2⟩
    · have := below ha hk1 hl1
      rw [htx] at this
      exact absurd this (Nat.lt_irrefl _)
    · rw [flagsTo_kid hl1, flagsTo_kid hl2]
      obtain ⟨⟨i1, hi1⟩, hka1⟩ := aligned_kid ha hk1
      obtain ⟨⟨i2, hi2⟩, hka2⟩ := aligned_kid ha hk2
      by_cases hk : k1 = k2
      · subst hk
        obtain ⟨f1, f2⟩ := ih hka1 (disciplined_kid hd hk1).2 l2 hl2 hne htx
        rw [f1, f2]
        exact ⟨rfl, rfl⟩
      · -- two different children, at the same taxon since their subtrees meet at one: neither is unflagged
        have hs1 := locs_tx_suffix k1 _ hka1 l1 hl1
        have hs2 := locs_tx_suffix k2 _ hka2 l2 hl2
        have hlen : k1.tx.length = k2.tx.length := by rw [hi1, hi2]; rfl
        have hkt : k1.tx = k2.tx := by
          rw [htx] at hs1
          rcases List.suffix_or_suffix_of_suffix hs1 hs2 with h | h
          · exact h.eq_of_length hlen
          · exact (h.eq_of_length hlen.symm).symm
        obtain ⟨f1, f2⟩ := disciplined_two_kids hd hk1 hk2 hk hkt
        rw [f1, f2, Bool.or_true, Bool.or_true]
        exact ⟨rfl, rfl⟩

end Pyham
