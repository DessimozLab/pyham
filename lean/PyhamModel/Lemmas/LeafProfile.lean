/-
  C09 / C14, the species nodes: the whole-dataset tree profile entry of a LEAF is a function of the species sections and
  the histories (C09_profile_from_histories covers the ancestral nodes).  At a leaf the number of genes is the number of
  genes the species section declares, "gained" counts the declared genes that no family references (plus families that
  start there), "duplicated" / duplication events are those of the histories, and retained / lost follow from the two
  balance equations.
-/
import PyhamModel.Lemmas.HistoryInvariance
namespace Pyham

/-- ids of the genes the species sections of the dataset declare for the species at leaf `t` -/
def Dataset.declaredAt (D : Dataset) (t : Taxon) : List String := declaredAtL D.T D.nm t D.species

/-- declared genes of the species at `t` that no family of the dataset references -/
def Dataset.unreferencedAt (D : Dataset) (t : Taxon) : List String := unreferencedAtL D.T D.nm t D.species D.fams

theorem declareSpecies_at (T : STree) (nm : Naming) (t : Taxon) (sp : List Species) (acc genes : List GeneRec)
    (h : declareSpecies T nm (fun _ => true) sp acc = .ok genes) :
    (genes.filter (·.tx == t)).map (·.id) = (acc.filter (·.tx == t)).map (·.id) ++ declaredAtL T nm t sp := by
  induction sp generalizing acc with
  | nil =>
    simp only [declareSpecies, Except.ok.injEq] at h
    subst h
    simp [declaredAtL]
  | cons s ss ih =>
    simp only [declareSpecies] at h
    cases hr : resolveSpecies T nm s.name with
    | error e =>
      rw [hr] at h
      cases h
    | ok p =>
      rw [hr] at h
      simp only [bind, Except.bind] at h
      have hf : List.filter (fun _ : GeneDecl => true) s.genes = s.genes :=
        List.filter_eq_self.mpr (fun _ _ => rfl)
      rw [hf] at h
      rw [ih _ h]
      simp only [declaredAtL, List.flatMap_cons, hr, List.filter_append, List.map_append, List.append_assoc]
      congr 1
      congr 1
      by_cases hpt : p == t
      · simp [hpt, List.filter_map, Function.comp_def, hf]
      · simp [hpt, List.filter_map, Function.comp_def]

theorem load_genes_at (T : STree) (nm : Naming) (inp : Input) (H : Ham) (h : load T nm inp = .ok H) (t : Taxon) :
    (H.genes.filter (·.tx == t)).map (·.id) = declaredAtL T nm t inp.species := by
  have := declareSpecies_at T nm t inp.species [] H.genes (load_tree_genes T nm inp H h).2
  simpa using this

theorem contains_perm {a b : List String} (h : a.Perm b) (g : String) : a.contains g = b.contains g := by
  rw [Bool.eq_iff_iff]
  simp only [List.contains_iff_mem]
  exact h.mem_iff

/-- the singletons of the analysis at `t`, counted on the dataset -/
theorem singletons_count (H : Ham) (t : Taxon) (ref : List String)
    (hp : (H.tops.flatMap fun p => p.2.leaves).Perm ref) :
    (singletonsAt H t).length =
      (((H.genes.filter (·.tx == t)).map (·.id)).filter fun g => !ref.contains g).length := by
  unfold singletonsAt Ham.singletons
  rw [List.filter_map, List.length_map, List.filter_filter, List.filter_map, List.length_map, List.filter_filter]
  congr 1
  apply List.filter_congr
  intro g _
  simp only [Function.comp_def, Node.tx, contains_perm hp g.id]
  exact Bool.and_comm _ _

/-- **the profile entry of a species node is a function of the species sections and the histories** -/
theorem C09_leaf_profile_from_dataset (D : Dataset) (hc : D.Consistent) :
    ∃ H, load D.T D.nm D.file = .ok H ∧ ∀ i u, (i :: u) ∈ H.tree.allTaxa → D.T.isLeafAt (i :: u) = true →
      ∃ ret lost,
        profileFullAt H (i :: u) =
          { tx := i :: u, nbr := (D.declaredAt (i :: u)).length,
            dupl := some ((D.fams.map fun f => copiesInto (i :: u) f.1 f.2).sum),
            lost := some lost,
            gain := some ((D.fams.filter fun f => f.1 == i :: u).length + (D.unreferencedAt (i :: u)).length),
            retained := some ret,
            duplication := some ((D.fams.map fun f => copiesInto (i :: u) f.1 f.2 - eventsInto (i :: u) f.1 f.2).sum),
            nbrEvents := some ((D.fams.map fun f => copiesInto (i :: u) f.1 f.2 - eventsInto (i :: u) f.1 f.2).sum +
              lost + ((D.fams.filter fun f => f.1 == i :: u).length + (D.unreferencedAt (i :: u)).length)) } ∧
        (D.declaredAt (i :: u)).length =
          ret + (D.fams.map fun f => copiesInto (i :: u) f.1 f.2).sum +
            ((D.fams.filter fun f => f.1 == i :: u).length + (D.unreferencedAt (i :: u)).length) ∧
        (D.declaredAt (i :: u)).length + lost =
          (D.fams.map fun f => lineagesAt u f.1 f.2).sum +
            ((D.fams.filter fun f => f.1 == i :: u).length + (D.unreferencedAt (i :: u)).length) +
            (D.fams.map fun f => copiesInto (i :: u) f.1 f.2 - eventsInto (i :: u) f.1 f.2).sum := by
  obtain ⟨H, L⟩ := Loaded.of_consistent D hc
  refine ⟨H, L.eq, ?_⟩
  intro i u ht hleaf
  have hsize : H.genomeSize (i :: u) = (D.declaredAt (i :: u)).length := by
    unfold Ham.genomeSize
    rw [L.tree, hleaf]
    simp only [if_true]
    rw [← List.length_map (f := fun g : GeneRec => g.id), load_genes_at _ _ _ _ L.eq]
    rfl
  have hsing : (singletonsAt H (i :: u)).length = (D.unreferencedAt (i :: u)).length := by
    rw [singletons_count H (i :: u) _ L.leaves_perm, load_genes_at _ _ _ _ L.eq]
    rfl
  have h := L.profile_entry i u ht
  rw [hsize, hsing] at h
  exact h

/-- **C14 for the tree profile at the species nodes**: two consistent datasets over one species tree whose families spell
    the same histories and whose species sections declare the same genes for every species (in any order, under any
    naming mode) have the same profile entry at every leaf -/
theorem C14_leaf_profile_same_for_same_histories (D D' : Dataset) (hc : D.Consistent) (hc' : D'.Consistent)
    (hT : D.T = D'.T) (hlen : D.fams.length = D'.fams.length)
    (hs : ∀ i (h1 : i < D.fams.length) (h2 : i < D'.fams.length),
        (D.fams[i]).1 = (D'.fams[i]).1 ∧ SameL (D.fams[i]).2 (D'.fams[i]).2)
    (hdecl : ∀ t, (D.declaredAt t).Perm (D'.declaredAt t)) :
    ∃ H H', load D.T D.nm D.file = .ok H ∧ load D'.T D'.nm D'.file = .ok H' ∧
      ∀ i u, (i :: u) ∈ D.T.allTaxa → D.T.isLeafAt (i :: u) = true →
        profileFullAt H (i :: u) = profileFullAt H' (i :: u) := by
  obtain ⟨H, hl, hp⟩ := C09_leaf_profile_from_dataset D hc
  obtain ⟨H', hl', hp'⟩ := C09_leaf_profile_from_dataset D' hc'
  refine ⟨H, H', hl, hl', ?_⟩
  intro i u ht hleaf
  have ht' : (i :: u) ∈ H'.tree.allTaxa := by
    rw [(load_tree_genes _ _ _ _ hl').1, ← hT]
    exact ht
  obtain ⟨ret, lost, e, b1, b2⟩ := hp i u ((load_tree_genes _ _ _ _ hl).1 ▸ ht) hleaf
  obtain ⟨ret', lost', e', b1', b2'⟩ := hp' i u ht' (hT ▸ hleaf)
  obtain ⟨eL, eC, eE, eG⟩ := profile_terms_same D.fams D'.fams hlen hs (i :: u)
  have hrefs : (D.fams.flatMap fun f => genesOf f.2).Perm (D'.fams.flatMap fun f => genesOf f.2) :=
    flatMap_perm_of_index _ _ _ _ hlen (fun j h1 h2 => sameL_genes (hs j h1 h2).2)
  have eN : (D.declaredAt (i :: u)).length = (D'.declaredAt (i :: u)).length := (hdecl _).length_eq
  have eU : (D.unreferencedAt (i :: u)).length = (D'.unreferencedAt (i :: u)).length := by
    show ((D.declaredAt (i :: u)).filter _).length = ((D'.declaredAt (i :: u)).filter _).length
    rw [funext fun g => congrArg (!·) (contains_perm hrefs g)]
    exact ((hdecl _).filter _).length_eq
  rw [eN, eC, eG, eU] at b1
  rw [eN, eL u, eG, eU, eE] at b2
  obtain ⟨hret, hlost⟩ := balance_unique b1 b2 b1' b2'
  rw [e, e', eN, eC, eG, eU, eE, hret, hlost]

end Pyham
