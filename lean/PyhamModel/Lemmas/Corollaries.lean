/-
  C06, C07 and C16, stated for every well-formed hierarchy, read on "every loaded consistent input" through
  `loaded_consistent`; the same readings of C05, C09 and C10 are proved in Props.lean.  Also C15 for a set of
  genomes.
-/
import PyhamModel.Lemmas.Capstone
import PyhamModel.Lemmas.Compose
import PyhamModel.Lemmas.Clustering
import PyhamModel.Model.Lookup
namespace Pyham

/-- **C15 (common ancestor of a genome set)**: the genome returned for a set of genomes lives at the deepest
    taxon that is an ancestor-or-self of all of them, and that taxon carries an ancestral genome -/
theorem C15_mrca_set_lookup (H : Ham) (gs : List Taxon) (t : Taxon) (h : H.ancestralGenomeByMrca gs = .ok t) :
    (∀ g ∈ gs, t <:+ g) ∧ (∀ c, (∀ g ∈ gs, c <:+ g) → c <:+ t) ∧ t ∈ H.ancestralTaxa := by
  unfold Ham.ancestralGenomeByMrca at h
  have key : dedup gs ≠ [] → H.ancestralGenomeByTaxon (mrca (dedup gs)) = .ok t →
      (∀ g ∈ gs, t <:+ g) ∧ (∀ c, (∀ g ∈ gs, c <:+ g) → c <:+ t) ∧ t ∈ H.ancestralTaxa := by
    intro hne hh
    unfold Ham.ancestralGenomeByTaxon at hh
    split at hh
    · rename_i hc
      cases hh
      refine ⟨fun g hg => mrca_suffix_mem _ g ((mem_dedup g gs).mpr hg), ?_, ?_⟩
      · intro c hcg
        exact mrca_greatest c _ hne (fun x hx => hcg x ((mem_dedup x gs).mp hx))
      · simpa using hc
    · cases hh
  split at h
  · cases h
  · cases h
  · rename_i hne1 hne2
    exact key hne1 h

theorem C06_on_loaded_consistent_input (D : Dataset) (hc : D.Consistent) :
    ∃ H, load D.T D.nm D.file = .ok H ∧
      (∀ a d n, n ∈ (hogsMap H a d).gain ↔ ∃ r ∈ H.nodesAt d, r.node = n ∧ ∀ y ∈ r.anc, y.tx ≠ a) ∧
      (∀ a r, r ∈ H.allLocs → ∀ x f, search a r = (some x, f) ↔
          ∃ pre post, r.anc = pre ++ x :: post ∧ x.tx = a ∧
            (∀ y ∈ r.anc, y.tx = a → y = x) ∧ f = (flagged r.node || pre.any flagged)) ∧
      (∀ a d x, x ∈ H.nodesAt a →
          (x.node ∈ (hogsMap H a d).loss ↔ ∀ r ∈ H.nodesAt d, ∀ y ∈ r.anc, y.key ≠ x.node.key)) ∧
      (∀ a d, (hogsMap H a d).ndup = ((hogsMap H a d).dupl.map fun e => e.2.length - 1).sum) := by
  obtain ⟨H, L⟩ := Loaded.of_consistent D hc
  exact ⟨H, L.eq, fun a d n => C06_gained_iff H a d n, fun a r hr x f => C06_reported_under H L.wfc a r hr x f,
    fun a d x hx => C06_lost_iff H L.wfc a d x hx, fun a d => C06_number_duplications H a d⟩

theorem C07_on_loaded_consistent_input (D : Dataset) (hc : D.Consistent) :
    ∃ H, load D.T D.nm D.file = .ok H ∧
      ∀ (a b : Taxon), a <:+ b → a ≠ b → ∀ r ∈ H.allLocs, b <:+ r.node.tx → b ≠ r.node.tx →
        (∀ y g, search b r = (some y, g) →
          ∃ post, (⟨y, post⟩ : Loc) ∈ H.nodesAt b ∧
            search a r = ((search a ⟨y, post⟩).1, g || (search a ⟨y, post⟩).2)) ∧
        (∀ g, search b r = (none, g) → (search a r).1 = none) := by
  obtain ⟨H, L⟩ := Loaded.of_consistent D hc
  exact ⟨H, L.eq, fun a b hab hne r hr hbr hbne => C07_compose H L.wfc a b hab hne r hr hbr hbne⟩

theorem C16_on_loaded_consistent_input (D : Dataset) (hc : D.Consistent) :
    ∃ H, load D.T D.nm D.file = .ok H ∧
      ∀ t (e1 e2 : Node × List String), e1 ∈ ancestralClustering H t → e2 ∈ ancestralClustering H t →
        e1.1.key ≠ e2.1.key → ∀ g ∈ e1.2, g ∉ e2.2 := by
  obtain ⟨H, L⟩ := Loaded.of_consistent D hc
  exact ⟨H, L.eq, fun t e1 e2 h1 h2 hne g hg => C16_clustering_disjoint H L.wfc t e1 e2 h1 h2 hne g hg⟩

end Pyham
