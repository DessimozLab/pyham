/-
  Taxa (ancestor = suffix): `pathUp`, `mrca2` / `mrca` (C08), `dedup`; the species tree: its taxa and leaf names (C18),
  and that accepted names identify a node (C15).
-/
import PyhamModel.Model.Tree
namespace Pyham
open STree

/-! ### get_path_up -/

theorem suffix_ne_length_lt {a b : Taxon} (h : a <:+ b) (hne : a ≠ b) : a.length < b.length :=
  Nat.lt_of_not_le fun h2 => hne (h.eq_of_length_le h2)

theorem suffix_antisymm {a b : Taxon} (h : a <:+ b) (h' : b <:+ a) : a = b :=
  h.eq_of_length_le h'.length_le

section
variable {a b c x p anc : Taxon} {n : Nat}

theorem proper_suffix_cons : (x <:+ n :: p ∧ x ≠ n :: p) ↔ x <:+ p :=
  ⟨fun ⟨h, hne⟩ => (List.suffix_cons_iff.mp h).resolve_left hne,
   fun h => ⟨h.trans (List.suffix_cons n p), fun e => Nat.not_succ_le_self _ (e ▸ h.length_le)⟩⟩

theorem mem_ancestors_iff (t x : Taxon) : x ∈ ancestors t ↔ (x <:+ t ∧ x ≠ t) := by
  induction t with
  | nil => exact iff_of_false List.not_mem_nil fun ⟨h, hne⟩ => hne (List.suffix_nil.mp h)
  | cons a p ih =>
    show x ∈ p :: ancestors p ↔ _
    rw [List.mem_cons, ih, proper_suffix_cons]
    constructor
    · rintro (rfl | h)
      · exact List.suffix_refl _
      · exact h.1
    · intro h
      by_cases e : x = p
      · exact Or.inl e
      · exact Or.inr ⟨h, e⟩

theorem pathUp_cons (a : Nat) (p anc : Taxon) :
    pathUp (a :: p) anc = if p = anc then [] else p :: pathUp p anc := by
  show (p :: ancestors p).takeWhile (· != anc) = _
  rw [List.takeWhile_cons]
  by_cases h : p = anc <;> simp [h, pathUp]

theorem pathUp_adjacent (i : Nat) (anc : Taxon) : pathUp (i :: anc) anc = [] := by
  rw [pathUp_cons, if_pos rfl]

theorem pathUp_append (anc a s) :
    pathUp (a :: (s ++ anc)) anc = (List.range' 1 s.length).map fun k => (a :: (s ++ anc)).drop k := by
  induction s generalizing a with
  | nil => exact pathUp_adjacent a anc
  | cons b s ih =>
    have hne : b :: s ++ anc ≠ anc := fun e => List.cons_ne_nil b s (List.append_left_eq_self.mp e)
    rw [pathUp_cons, if_neg hne, List.length_cons, List.range'_succ, List.map_cons, List.range'_succ_left, List.map_map]
    exact congrArg _ (ih b)

theorem pathUp_spec (lo anc : Taxon) (h : anc <:+ lo) (hne : anc ≠ lo) :
    pathUp lo anc = (List.range' 1 (lo.length - anc.length - 1)).map (fun k => lo.drop k) := by
  obtain ⟨_ | ⟨a, s⟩, rfl⟩ := h
  · exact absurd rfl hne
  · rw [List.length_append, Nat.add_sub_cancel]
    exact pathUp_append anc a s

/-- The hypothesis `anc ≠ lo` is needed: `pathUp [0] [0] = [[]]`, but `[0] <:+ []` fails. -/
theorem mem_pathUp_iff_partial (lo anc x : Taxon) (h : anc <:+ lo) (hne : anc ≠ lo) :
    x ∈ pathUp lo anc ↔ (anc <:+ x ∧ x <:+ lo ∧ x ≠ anc ∧ x ≠ lo) := by
  induction lo with
  | nil => exact absurd (List.suffix_nil.mp h) hne
  | cons a p ih =>
    have hs : anc <:+ p := proper_suffix_cons.mp ⟨h, hne⟩
    rw [pathUp_cons]
    by_cases hp : p = anc
    · rw [if_pos hp]
      refine iff_of_false List.not_mem_nil fun ⟨h1, h2, h3, h4⟩ => h3 (suffix_antisymm ?_ h1)
      exact hp ▸ proper_suffix_cons.mp ⟨h2, h4⟩
    · rw [if_neg hp, List.mem_cons, ih hs (Ne.symm hp)]
      constructor
      · rintro (h1 | ⟨h1, h2, h3, h4⟩)
        · rw [h1]
          exact ⟨hs, List.suffix_cons a p, hp, (proper_suffix_cons.mpr (List.suffix_refl p)).2⟩
        · exact ⟨h1, (proper_suffix_cons.mpr h2).1, h3, (proper_suffix_cons.mpr h2).2⟩
      · rintro ⟨h1, h2, h3, h4⟩
        by_cases hx : x = p
        · exact Or.inl hx
        · exact Or.inr ⟨h1, proper_suffix_cons.mp ⟨h2, h4⟩, h3, hx⟩

theorem pathUp_not_ancestor (lo anc : Taxon) (h : ¬ anc <:+ lo) : pathUp lo anc = ancestors lo := by
  induction lo with
  | nil => rfl
  | cons a p ih =>
    have hp : ¬ anc <:+ p := fun hs => h (hs.trans (List.suffix_cons a p))
    rw [pathUp_cons, if_neg fun e : p = anc => hp (e ▸ List.suffix_refl p), ih hp]
    rfl

theorem isProperAncestor_iff (a t : Taxon) : isProperAncestor a t = true ↔ (a <:+ t ∧ a ≠ t) := by
  rw [isProperAncestor, List.contains_iff_mem, mem_ancestors_iff]

/-! ### `mrca2` and `mrca` -/

theorem lcsEq_cons (a b as bs) :
    lcsEq (a :: as) (b :: bs) =
      if a == b && (lcsEq as bs).length == as.length && as.length == bs.length
      then a :: lcsEq as bs else lcsEq as bs := rfl

/-- `lcsEq` keeps a head only above equally long tails that agree entirely: it is the greatest common suffix only
    of arguments of equal length (`lcsEq_append`), which is why `mrca2` cuts both to the shorter length first. -/
theorem lcsEq_suffix (a b) : lcsEq a b <:+ a ∧ lcsEq a b <:+ b := by
  fun_induction lcsEq a b with
  | case1 | case2 => exact ⟨List.nil_suffix, List.nil_suffix⟩
  | case3 a as b bs r hc ih =>
    simp only [Bool.and_eq_true, beq_iff_eq] at hc
    have h1 : r = as := ih.1.eq_of_length hc.1.2
    have h2 : r = bs := ih.2.eq_of_length (hc.1.2.trans hc.2)
    rw [← hc.1.1, ← h2, h1]
    exact ⟨List.suffix_refl _, List.suffix_refl _⟩
  | case4 a as b bs r hc ih => exact ⟨ih.1.trans (List.suffix_cons _ _), ih.2.trans (List.suffix_cons _ _)⟩

theorem lcsEq_self (a) : lcsEq a a = a := by
  induction a with
  | nil => rfl
  | cons x as ih =>
    rw [lcsEq_cons, ih]
    simp

theorem lcsEq_append (c) (s s' : Taxon) (h : s.length = s'.length) : c <:+ lcsEq (s ++ c) (s' ++ c) := by
  induction s generalizing s' with
  | nil =>
    cases List.length_eq_zero_iff.mp h.symm
    exact (lcsEq_self c).symm ▸ List.suffix_refl c
  | cons x s ih =>
    obtain ⟨y, s', rfl⟩ := List.exists_cons_of_length_eq_add_one h.symm
    have ih := ih s' (Nat.succ.inj h)
    rw [List.cons_append, List.cons_append, lcsEq_cons]
    split
    · exact ih.trans (List.suffix_cons _ _)
    · exact ih

theorem dropTo_length (n a) (h : n ≤ a.length) : (dropTo n a).length = n := by
  rw [dropTo, List.length_drop, Nat.sub_sub_self h]

theorem suffix_dropTo (h : c <:+ a) (hc : c.length ≤ n) (hn : n ≤ a.length) : c <:+ dropTo n a :=
  List.suffix_of_suffix_length_le h (List.drop_suffix _ a) (by rw [dropTo_length n a hn]; exact hc)

theorem mrca2_suffix_left (a b : Taxon) : mrca2 a b <:+ a :=
  (lcsEq_suffix _ _).1.trans (List.drop_suffix _ _)

theorem mrca2_suffix_right (a b : Taxon) : mrca2 a b <:+ b :=
  (lcsEq_suffix _ _).2.trans (List.drop_suffix _ _)

theorem mrca2_greatest (a b c : Taxon) (ha : c <:+ a) (hb : c <:+ b) : c <:+ mrca2 a b := by
  have hc : c.length ≤ min a.length b.length := Nat.le_min.mpr ⟨ha.length_le, hb.length_le⟩
  have hna := Nat.min_le_left a.length b.length
  have hnb := Nat.min_le_right a.length b.length
  have hl := (dropTo_length _ a hna).trans (dropTo_length _ b hnb).symm
  obtain ⟨s, hs⟩ := suffix_dropTo ha hc hna
  obtain ⟨s', hs'⟩ := suffix_dropTo hb hc hnb
  rw [← hs, ← hs', List.length_append, List.length_append] at hl
  rw [mrca2, ← hs, ← hs']
  exact lcsEq_append c s s' (Nat.add_right_cancel hl)

theorem mrca2_comm (a b : Taxon) : mrca2 a b = mrca2 b a :=
  suffix_antisymm (mrca2_greatest b a _ (mrca2_suffix_right a b) (mrca2_suffix_left a b))
    (mrca2_greatest a b _ (mrca2_suffix_right b a) (mrca2_suffix_left b a))

theorem mrca2_eq_left_iff (a b : Taxon) : mrca2 a b = a ↔ a <:+ b :=
  ⟨fun h => h ▸ mrca2_suffix_right a b,
   fun h => suffix_antisymm (mrca2_suffix_left a b) (mrca2_greatest a b a (List.suffix_refl _) h)⟩

theorem mrca2_self (a : Taxon) : mrca2 a a = a := (mrca2_eq_left_iff a a).mpr (List.suffix_refl _)

theorem foldl_mrca2_suffix_init (ts : List Taxon) (t : Taxon) : ts.foldl mrca2 t <:+ t := by
  induction ts generalizing t with
  | nil => exact List.suffix_refl _
  | cons x xs ih =>
    simp only [List.foldl_cons]
    exact (ih _).trans (mrca2_suffix_left t x)

theorem foldl_mrca2_suffix_mem (ts : List Taxon) (t x : Taxon) (h : x ∈ ts) : ts.foldl mrca2 t <:+ x := by
  induction ts generalizing t with
  | nil => cases h
  | cons y ys ih =>
    simp only [List.foldl_cons]
    rcases List.mem_cons.mp h with rfl | h'
    · exact (foldl_mrca2_suffix_init ys _).trans (mrca2_suffix_right t x)
    · exact ih _ h'

theorem foldl_mrca2_greatest (c : Taxon) (ts : List Taxon) (t : Taxon) (h : c <:+ t)
    (hs : ∀ x ∈ ts, c <:+ x) : c <:+ ts.foldl mrca2 t := by
  induction ts generalizing t with
  | nil => exact h
  | cons y ys ih =>
    simp only [List.foldl_cons]
    exact ih _ (mrca2_greatest t y c h (hs y (List.mem_cons_self ..)))
      (fun x hx => hs x (List.mem_cons_of_mem _ hx))

theorem mrca_suffix_mem (ts : List Taxon) (t : Taxon) (h : t ∈ ts) : mrca ts <:+ t := by
  cases ts with
  | nil => cases h
  | cons y ys =>
    simp only [mrca]
    rcases List.mem_cons.mp h with rfl | h'
    · exact foldl_mrca2_suffix_init ys _
    · exact foldl_mrca2_suffix_mem ys _ t h'

theorem mrca_greatest (c : Taxon) (ts : List Taxon) (hne : ts ≠ []) (h : ∀ t ∈ ts, c <:+ t) : c <:+ mrca ts := by
  cases ts with
  | nil => exact absurd rfl hne
  | cons y ys =>
    simp only [mrca]
    exact foldl_mrca2_greatest c ys y (h y (List.mem_cons_self ..)) (fun x hx => h x (List.mem_cons_of_mem _ hx))

theorem up_isSome_of_suffix {c t : Taxon} (hc : c ≠ []) (h : c <:+ t) : ∃ u, t.up = some u := by
  cases t with
  | nil => exact absurd (List.suffix_nil.mp h) hc
  | cons i p => exact ⟨p, rfl⟩

/-! ### `dedup` -/

theorem mem_dedup {α} [BEq α] [LawfulBEq α] (x : α) : (l : List α) → (x ∈ dedup l ↔ x ∈ l) := by
  intro l
  induction l with
  | nil => simp [dedup]
  | cons y ys ih =>
    simp only [dedup, List.mem_cons, List.mem_filter, ih, bne_iff_ne, ne_eq]
    by_cases h : x = y <;> simp [h]

theorem dedup_nodup {α} [BEq α] [LawfulBEq α] : (l : List α) → (dedup l).Nodup := by
  intro l
  induction l with
  | nil => simp [dedup]
  | cons y ys ih =>
    simp only [dedup, List.nodup_cons]
    exact ⟨by simp, ih.sublist List.filter_sublist⟩

end

/-! ### the tree -/

namespace STree

theorem induct {P : STree → Prop} (h : ∀ n ks, (∀ k ∈ ks, P k) → P (node n ks)) (t) : P t :=
  STree.rec (motive_2 := fun ks => ∀ k ∈ ks, P k) h nofun
    (fun _ _ hk hks _ hx => (List.mem_cons.mp hx).elim (fun e => e ▸ hk) (hks _)) t

end STree

section
variable {t : STree} {ks : List STree} {p q : Taxon} {i : Nat}

theorem subRF_node_cons (n ks i r) : (node n ks).subRF (i :: r) = ks[i]?.bind (·.subRF r) := by
  show (match ks[i]? with | some k => subRF k r | none => none) = _
  cases ks[i]? <;> rfl

theorem subRF_append (t : STree) (a b) : t.subRF (a ++ b) = (t.subRF a).bind (·.subRF b) := by
  induction a generalizing t with
  | nil => cases t; rfl
  | cons i a ih =>
    cases t with
    | node n ks =>
      rw [List.cons_append, subRF_node_cons, subRF_node_cons]
      cases ks[i]? with
      | none => rfl
      | some k => exact ih k

theorem taxaFrom_node (n) : taxaFrom p (node n ks) = p :: taxaFromL p 0 ks := rfl

theorem taxaFromL_cons (k) : taxaFromL p i (k :: ks) = taxaFrom (i :: p) k ++ taxaFromL p (i + 1) ks := rfl

theorem mem_taxaFromL_iff :
    q ∈ taxaFromL p i ks ↔ ∃ j k, ks[j]? = some k ∧ q ∈ taxaFrom ((i + j) :: p) k := by
  induction ks generalizing i with
  | nil => exact iff_of_false List.not_mem_nil fun ⟨_, _, hk, _⟩ => by cases hk
  | cons k ks ih =>
    rw [taxaFromL_cons, List.mem_append, ih]
    constructor
    · rintro (h | ⟨j, k', hk, h⟩)
      · exact ⟨0, k, rfl, h⟩
      · exact ⟨j + 1, k', hk, Nat.succ_add_eq_add_succ i j ▸ h⟩
    · rintro ⟨_ | j, k', hk, h⟩
      · exact Or.inl (Option.some.inj hk ▸ h)
      · exact Or.inr ⟨j, k', hk, Nat.succ_add_eq_add_succ i j ▸ h⟩

theorem mem_taxaFrom_iff (t) : ∀ p q,
    q ∈ taxaFrom p t ↔ ∃ r, q = r.reverse ++ p ∧ (t.subRF r).isSome = true := by
  induction t using STree.induct with
  | h n ks ih =>
    intro p q
    rw [taxaFrom_node, List.mem_cons, mem_taxaFromL_iff]
    constructor
    · rintro (h | ⟨j, k, hk, h⟩)
      · exact ⟨[], h, rfl⟩
      · obtain ⟨r, hq, hs⟩ := (ih k (List.mem_of_getElem? hk) _ q).mp h
        refine ⟨j :: r, by simp [hq], ?_⟩
        rw [subRF_node_cons, hk]
        exact hs
    · rintro ⟨_ | ⟨j, r⟩, hq, hs⟩
      · exact Or.inl hq
      · rw [subRF_node_cons] at hs
        cases hk : ks[j]? with
        | none => rw [hk] at hs; cases hs
        | some k =>
          rw [hk] at hs
          exact Or.inr ⟨j, k, hk, (ih k (List.mem_of_getElem? hk) _ q).mpr ⟨r, by simp [hq], hs⟩⟩

theorem mem_allTaxa_iff (T : STree) (p : Taxon) : p ∈ T.allTaxa ↔ (T.sub p).isSome = true := by
  refine (mem_taxaFrom_iff T [] p).trans ⟨?_, fun h => ⟨p.reverse, by simp, h⟩⟩
  rintro ⟨r, hq, hs⟩
  simpa [hq, sub] using hs

theorem suffix_of_mem_taxaFrom (h : q ∈ taxaFrom p t) : p <:+ q := by
  obtain ⟨r, hq, _⟩ := (mem_taxaFrom_iff t p q).mp h
  exact hq ▸ List.suffix_append _ _

theorem suffix_of_mem_taxaFromL (h : q ∈ taxaFromL p i ks) : ∃ j, (i + j) :: p <:+ q := by
  obtain ⟨j, k, _, hq⟩ := mem_taxaFromL_iff.mp h
  exact ⟨j, suffix_of_mem_taxaFrom hq⟩

theorem taxaFromL_nodup_of (h : ∀ k ∈ ks, ∀ p, (taxaFrom p k).Nodup) : (taxaFromL p i ks).Nodup := by
  induction ks generalizing i with
  | nil => exact List.nodup_nil
  | cons k ks ih =>
    rw [taxaFromL_cons, List.nodup_append]
    refine ⟨h k List.mem_cons_self _, ih fun k' hk' => h k' (List.mem_cons_of_mem k hk'), ?_⟩
    intro a ha b hb hab
    obtain ⟨j, hj⟩ := suffix_of_mem_taxaFromL (hab ▸ hb)
    have hs := List.suffix_of_suffix_length_le (suffix_of_mem_taxaFrom ha) hj (Nat.le_refl _)
    have hij := (List.cons.inj (hs.eq_of_length rfl)).1
    omega

theorem taxaFrom_nodup (t) : ∀ p, (taxaFrom p t).Nodup := by
  induction t using STree.induct with
  | h n ks ih =>
    intro p
    rw [taxaFrom_node, List.nodup_cons]
    refine ⟨fun h => ?_, taxaFromL_nodup_of ih⟩
    obtain ⟨j, hj⟩ := suffix_of_mem_taxaFromL h
    exact Nat.not_succ_le_self _ hj.length_le

theorem taxaFromL_nodup : (ks : List STree) → (p : Taxon) → (i : Nat) → (taxaFromL p i ks).Nodup :=
  fun _ _ _ => taxaFromL_nodup_of fun k _ => taxaFrom_nodup k

theorem allTaxa_nodup (T : STree) : T.allTaxa.Nodup := taxaFrom_nodup T []

theorem up_mem_allTaxa (T : STree) (i : Nat) (p : Taxon) (h : (i :: p) ∈ T.allTaxa) : p ∈ T.allTaxa := by
  rw [mem_allTaxa_iff, sub] at h ⊢
  rw [List.reverse_cons, subRF_append] at h
  cases hs : T.subRF p.reverse with
  | none => rw [hs] at h; cases h
  | some u => rfl

theorem sub_cons (T : STree) (p : Taxon) (j : Nat) (n : String) (ks : List STree)
    (h : T.sub p = some (.node n ks)) : T.sub (j :: p) = ks[j]? := by
  rw [sub, List.reverse_cons, subRF_append, ← sub, h]
  show (node n ks).subRF [j] = _
  rw [subRF_node_cons]
  cases ks[j]? <;> rfl

theorem leafNamesL_of {f : Taxon → Bool} {g : Taxon → Option String}
    (h : ∀ j k, ks[j]? = some k → k.leafNames = ((taxaFrom ((i + j) :: p) k).filter f).filterMap g) :
    leafNamesL ks = ((taxaFromL p i ks).filter f).filterMap g := by
  induction ks generalizing i with
  | nil => rfl
  | cons k ks ih =>
    show k.leafNames ++ leafNamesL ks = _
    rw [taxaFromL_cons, List.filter_append, List.filterMap_append, h 0 k rfl,
      ih fun j k' hj => Nat.succ_add_eq_add_succ i j ▸ h (j + 1) k' hj]
    rfl

theorem leafNames_aux (T t : STree) : ∀ p, T.sub p = some t →
    t.leafNames = ((taxaFrom p t).filter T.isLeafAt).filterMap (fun q => (T.sub q).map STree.name) := by
  induction t using STree.induct with
  | h n ks ih =>
    intro p h
    have hl : T.isLeafAt p = ks.isEmpty := by
      rw [isLeafAt, h]
      rfl
    rw [taxaFrom_node]
    cases ks with
    | nil =>
      show [n] = List.filterMap _ (List.filter _ [p])
      simp [hl, h, name]
    | cons k ks =>
      rw [List.filter_cons_of_neg (by rw [hl]; nofun)]
      exact leafNamesL_of fun j k' hj => ih k' (List.mem_of_getElem? hj) _ (by
        rw [Nat.zero_add, sub_cons T p j n _ h]
        exact hj)

theorem leafNamesL_aux (T : STree) : (ks : List STree) → (p : Taxon) → (i : Nat) →
    (∀ j k, ks[j]? = some k → T.sub ((i + j) :: p) = some k) →
    leafNamesL ks = ((taxaFromL p i ks).filter T.isLeafAt).filterMap (fun q => (T.sub q).map STree.name) :=
  fun _ _ _ h => leafNamesL_of fun j k hj => leafNames_aux T k _ (h j k hj)

theorem leafNames_eq (T : STree) :
    T.leafNames = (T.leafTaxa).filterMap (fun p => (T.sub p).map STree.name) :=
  leafNames_aux T T [] rfl

end

theorem namesOk_leaf_nodup (T : STree) (nm : Naming) (h : T.namesOk nm = true) :
    (T.leafTaxa.filterMap (T.nameAt nm)).Nodup :=
  of_decide_eq_true ((Bool.and_eq_true _ _).mp h).1

theorem namesOk_internal_nodup (T : STree) (nm : Naming) (h : T.namesOk nm = true) :
    (T.internalTaxa.filterMap (T.nameAt nm)).Nodup :=
  of_decide_eq_true ((Bool.and_eq_true _ _).mp h).2

theorem filterMap_nodup_inj {α β} (f : α → Option β) (l : List α) (h : (l.filterMap f).Nodup)
    (p q : α) (hp : p ∈ l) (hq : q ∈ l) (s : β) (hpn : f p = some s) (hqn : f q = some s) : p = q := by
  have hpw : l.Pairwise fun x y => f x = some s → f y = some s → False :=
    (List.pairwise_filterMap.mp h).imp fun hxy hx hy => hxy s hx s hy rfl
  exact List.Pairwise.forall_of_forall_of_flip (R := fun x y => f x = some s → f y = some s → x = y)
    (fun _ _ _ _ => rfl) (hpw.imp fun h hx hy => (h hx hy).elim) (hpw.imp fun h hx hy => (h hy hx).elim)
    hp hq hpn hqn

/-- about leaves only (internal nodes: `namesOk_internal_nodup`) -/
theorem namesOk_lookup_unique (T : STree) (nm : Naming) (h : T.namesOk nm = true) (s : String)
    (p q : Taxon) (hp : p ∈ T.leafTaxa) (hq : q ∈ T.leafTaxa)
    (hpn : T.nameAt nm p = some s) (hqn : T.nameAt nm q = some s) : p = q :=
  filterMap_nodup_inj _ _ (namesOk_leaf_nodup T nm h) p q hp hq s hpn hqn

end Pyham
