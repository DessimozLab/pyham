/-
  How many genes are GAINED over an arbitrary branch `a → d` (not only a branch of length one): on the hierarchy, the
  members of `d` that belong to families rooted strictly below `a` (+ the singletons of `d`); on the histories of a consistent
  dataset, the lineages at `d` of the families the histories start strictly below `a`.
-/
import PyhamModel.Lemmas.Chaining
import PyhamModel.Lemmas.HistoryProfile
namespace Pyham

/-- the root taxon of every located member of a family is the taxon of the family's top-level HOG -/
theorem rootTx_of_family (H : Ham) (hw : H.WFc) (p : Option String × Node) (hp : p ∈ H.tops) (l : Loc)
    (hl : l ∈ locs [] p.2) : l.rootTx = p.2.tx := by
  have hal : l ∈ H.allLocs := mem_allLocs.mpr (Or.inl ⟨p, hp, hl⟩)
  obtain ⟨h0, h1⟩ := rootTx_is_top H hw l hal
  by_cases he : l.anc = []
  · have := c10_root_of_anc_nil p.2 l hl he
    rw [h0 he, this]
  · obtain ⟨tl, hhead, htl⟩ := c10_locs_head p.2 []
    rw [hhead] at hl
    rcases List.mem_cons.mp hl with rfl | hm
    · exact absurd rfl he
    · obtain ⟨pre, hpre⟩ := htl l hm
      have hlast : l.anc.getLast? = some p.2 := by
        rw [← hpre]
        simp
      exact (h1 p.2 hlast).symm

/-- **the number of gained genes over any branch, on the hierarchy**: members of `d` in families rooted strictly below `a`,
    plus the singletons of `d` -/
theorem C06_gained_count (H : Ham) (hw : H.WFc) (a d : Taxon) (had : a <:+ d) (hne : a ≠ d) :
    (hogsMap H a d).gain.length =
      famSum H (fun top => if top.tx.isSuffixOf a then 0 else ((locs [] top).filter fun l => l.node.tx == d).length) +
      (singletonsAt H d).length := by
  rw [hogsMap_gain, gain_count]
  unfold upOf
  rw [List.countP_map, List.countP_eq_length_filter]
  refine c10_add H d _ _ _ (fun o top hp => ?_) (congrArg List.length (List.filter_eq_self.mpr fun g _ => rfl))
  have key : ∀ l ∈ (locs [] top).filter (fun l => l.node.tx == d),
      (!(search a l).1.isSome) = !(top.tx.isSuffixOf a) := by
    intro l hl
    obtain ⟨hl1, hl2⟩ := List.mem_filter.mp hl
    have hlt : l.node.tx = d := by simpa using hl2
    have hal : l ∈ H.allLocs := mem_allLocs.mpr (Or.inl ⟨(o, top), hp, hl1⟩)
    have hy := (gained_iff_young H hw a l hal (hlt ▸ had) (hlt ▸ hne)).2
    rw [rootTx_of_family H hw (o, top) hp l hl1] at hy
    cases hs : top.tx.isSuffixOf a with
    | true =>
      have hnn : ¬ (search a l).1 = none := fun h => (hy.mp h) (List.isSuffixOf_iff_suffix.mp hs)
      cases hsr : (search a l).1 with
      | none => exact absurd hsr hnn
      | some _ => rfl
    | false =>
      have : ¬ top.tx <:+ a := fun h => by
        have := List.isSuffixOf_iff_suffix.mpr h
        rw [hs] at this
        cases this
      rw [hy.mpr this]
      rfl
  cases hs : top.tx.isSuffixOf a with
  | true =>
    refine (List.length_eq_zero_iff.mpr (List.filter_eq_nil_iff.mpr fun l hl => ?_)).symm
    show ¬ (!(search a l).1.isSome) = true
    rw [key l hl, hs]
    exact Bool.false_ne_true
  | false =>
    refine congrArg List.length (List.filter_eq_self.mpr fun l hl => ?_).symm
    show (!(search a l).1.isSome) = true
    rw [key l hl, hs]
    rfl

/-! ### ... and on the histories -/

theorem nodes_filter_internal (n : Node) (d : Taxon) (h : ∀ x ∈ n.nodes, x.isGene = true → x.tx ≠ d) :
    (n.nodes.filter fun x => x.tx == d).length = (n.hogs.filter fun x => x.tx == d).length := by
  rw [hogs_eq_nodes_filter, List.filter_filter]
  congr 1
  apply List.filter_congr
  intro x hx
  cases hg : x.isGene with
  | false => simp
  | true =>
    have := h x hx hg
    simp [this]

theorem realises_gene_tx (T : STree) (q : Taxon) (l : SL) (n : Node) (hw : wfh T q l = true) (hr : Realises q l n)
    (d : Taxon) (hint : T.isInternalAt d = true) : ∀ x ∈ n.nodes, x.isGene = true → x.tx ≠ d := by
  intro x hx hg he
  have hl := (realises_shape T q l n hw hr x hx).1 hg
  rw [he] at hl
  exact leaf_not_internal _ _ hl hint

namespace Loaded

theorem gained {D : Dataset} {H : Ham} (L : Loaded D H) (a d : Taxon) (had : a <:+ d) (hne : a ≠ d)
    (hint : D.T.isInternalAt d = true) :
    (hogsMap H a d).gain.length = (D.fams.map fun f => if f.1.isSuffixOf a then 0 else lineagesAt d f.1 f.2).sum := by
  rw [C06_gained_count H L.wfc a d had hne, L.no_singletons d hint, List.length_nil, Nat.add_zero]
  refine L.famSum _ (fun q l => if q.isSuffixOf a then 0 else lineagesAt d q l) ?_
  intro p _ e he hr
  show (if p.2.tx.isSuffixOf a = true then 0 else ((locs [] p.2).filter fun l => l.node.tx == d).length) = _
  rw [realises_tx _ _ _ hr, locs_filter_node p.2 [] (fun x => x.tx == d),
    nodes_filter_internal _ d (realises_gene_tx D.T _ _ _ (L.wfh e he) hr d hint), realises_lineage_count d _ _ _ hr]

end Loaded

/-- **the number of gained genes over any branch, on the histories**: for every consistent dataset and every ancestral node
    `d` below `a`, the comparison `a → d` reports as many gained genes as the histories of the families that start strictly
    below `a` have lineages crossing `d` -/
theorem C06_gained_count_is_the_history (D : Dataset) (hc : D.Consistent) :
    ∃ H, load D.T D.nm D.file = .ok H ∧ ∀ a d, a <:+ d → a ≠ d → D.T.isInternalAt d = true →
      (hogsMap H a d).gain.length =
        (D.fams.map fun f => if f.1.isSuffixOf a then 0 else lineagesAt d f.1 f.2).sum := by
  obtain ⟨H, L⟩ := Loaded.of_consistent D hc
  exact ⟨H, L.eq, L.gained⟩

end Pyham
