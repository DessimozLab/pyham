/-
  C07, second sentence: "gains, losses and duplicated sets over a long branch are determined by chaining comparisons of
  its sub-branches" -- at the level of the clusters the comparisons report.
-/
import PyhamModel.Lemmas.Compose
import PyhamModel.Lemmas.Meaning
namespace Pyham

/-- a member `r` of `d` seen from `b` and from `a` above it -/
theorem search_via (H : Ham) (hw : H.WFc) (a b d : Taxon) (hab : a <:+ b) (hne : a ≠ b) (hbd : b <:+ d)
    (hbne : b ≠ d) (r : Loc) (hr : r ∈ H.nodesAt d) :
    ((search b r).1 = none ∧ (search a r).1 = none) ∨
    ∃ yl ∈ H.nodesAt b, ∃ g, search b r = (some yl.node, g) ∧ search a r = ((search a yl).1, g || (search a yl).2) := by
  obtain ⟨hrl, hrt⟩ := nodesAt_allLocs hr
  have comp := C07_compose H hw a b hab hne r hrl (hrt.symm ▸ hbd) (hrt.symm ▸ hbne)
  cases hsb : search b r with
  | mk o g =>
    cases o with
    | none => exact Or.inl ⟨rfl, comp.2 g hsb⟩
    | some y =>
      obtain ⟨post, hyl, hc⟩ := comp.1 y g hsb
      exact Or.inr ⟨⟨y, post⟩, hyl, g, rfl, hc⟩

/-- **C07 at the level of the reported clusters.**  For genomes `a` above `b` above `d` on one lineage of a well-formed
    analysis:
    * a gene of `d` is gained over the long branch iff it is gained over `b → d`, or the gene of `b` it is reported under is
      gained over `a → b`;
    * it is reported under `x` of `a` with flag `f` iff it is reported under some `y` of `b` (flag `g`) and `y` is reported
      under `x` (flag `f'`), and `f = g || f'` -- so RETAINED and DUPLICATE of the long branch are the relational composition
      of those of the sub-branches, duplicated iff duplicated on either part;
    * a gene of `a` is lost over the long branch iff every gene of `b` reported under it is lost over `b → d`. -/
theorem C07_chained (H : Ham) (hw : H.WFc) (a b d : Taxon) (hab : a <:+ b) (hne : a ≠ b) (hbd : b <:+ d) (hbne : b ≠ d) :
    (∀ n, n ∈ (hogsMap H a d).gain ↔
        n ∈ (hogsMap H b d).gain ∨
        ∃ y, (∃ r ∈ H.nodesAt d, r.node = n ∧ (search b r).1 = some y) ∧ y ∈ (hogsMap H a b).gain) ∧
    (∀ r ∈ H.nodesAt d, ∀ x f, search a r = (some x, f) ↔
        ∃ y g f', search b r = (some y, g) ∧
          (∃ yl ∈ H.nodesAt b, yl.node = y ∧ search a yl = (some x, f')) ∧ f = (g || f')) ∧
    (∀ x ∈ H.nodesAt a, x.node ∈ (hogsMap H a d).loss ↔
        ∀ yl ∈ H.nodesAt b, (∀ x', (search a yl).1 = some x' → x'.key = x.node.key → yl.node ∈ (hogsMap H b d).loss)) := by
  have via := search_via H hw a b d hab hne hbd hbne
  -- a located member of b is determined by its node
  have uniq : ∀ l1 ∈ H.nodesAt b, ∀ l2 ∈ H.nodesAt b, l1.node.key = l2.node.key → l1 = l2 :=
    fun l1 h1 l2 h2 hk => key_inj hw (nodesAt_allLocs h1).1 (nodesAt_allLocs h2).1 hk
  refine ⟨?_, ?_, ?_⟩
  · -- gained: no ancestor in `a`
    intro n
    rw [gained_iff_search, gained_iff_search]
    constructor
    · rintro ⟨r, hr, hn, hs⟩
      rcases via r hr with ⟨hb, _⟩ | ⟨yl, hyl, g, hsb, hc⟩
      · exact Or.inl ⟨r, hr, hn, hb⟩
      · rw [hc] at hs
        exact Or.inr ⟨yl.node, ⟨r, hr, hn, by rw [hsb]⟩, (gained_iff_search H a b _).2 ⟨yl, hyl, rfl, hs⟩⟩
    · rintro (⟨r, hr, hn, hs⟩ | ⟨y, ⟨r, hr, hn, hs⟩, hy⟩)
      · rcases via r hr with ⟨_, ha⟩ | ⟨yl, _, g, hsb, _⟩
        · exact ⟨r, hr, hn, ha⟩
        · rw [hsb] at hs
          exact nomatch hs
      · obtain ⟨yl', hyl', hyn, hys⟩ := (gained_iff_search H a b y).1 hy
        rcases via r hr with ⟨hb, _⟩ | ⟨yl, hyl, g, hsb, hc⟩
        · rw [hb] at hs
          exact nomatch hs
        · rw [hsb] at hs
          rw [uniq yl hyl yl' hyl' (congrArg Node.key ((Option.some.inj hs).trans hyn.symm))] at hc
          exact ⟨r, hr, hn, by rw [hc]; exact hys⟩
  · -- reported under: the relational composition
    intro r hr x f
    rcases via r hr with ⟨hb, ha⟩ | ⟨yl, hyl, g, hsb, hc⟩
    · constructor
      · intro hs
        rw [hs] at ha
        exact nomatch ha
      · rintro ⟨y, g, _, hsb, _⟩
        rw [hsb] at hb
        exact nomatch hb
    · rw [hsb, hc]
      constructor
      · intro hs
        exact ⟨yl.node, g, (search a yl).2, rfl, ⟨yl, hyl, rfl, Prod.ext (Prod.mk.inj hs).1 rfl⟩, (Prod.mk.inj hs).2.symm⟩
      · rintro ⟨y, g', f', hyg, ⟨yl', hyl', hyn, hys⟩, hf⟩
        obtain ⟨hy, hg⟩ := Prod.mk.inj hyg
        rw [uniq yl hyl yl' hyl' (congrArg Node.key ((Option.some.inj hy).trans hyn.symm)), hys, hf, hg]
  · -- lost: nobody reported under it
    intro x hx
    rw [lost_iff_search H a d x hx]
    constructor
    · intro h yl hyl x' hsx hk
      rw [lost_iff_search H b d yl hyl]
      intro r hr y hsy hky
      rcases via r hr with ⟨hb, _⟩ | ⟨yl2, hyl2, g, hsb, hc⟩
      · rw [hb] at hsy
        exact nomatch hsy
      · rw [hsb] at hsy
        rw [uniq yl2 hyl2 yl hyl ((congrArg Node.key (Option.some.inj hsy)).trans hky)] at hc
        exact h r hr x' (by rw [hc]; exact hsx) hk
    · intro h r hr x' hs hk
      rcases via r hr with ⟨_, ha⟩ | ⟨yl, hyl, g, hsb, hc⟩
      · rw [ha] at hs
        exact nomatch hs
      · rw [hc] at hs
        have hlost := h yl hyl x' hs hk
        rw [lost_iff_search H b d yl hyl] at hlost
        exact hlost r hr yl.node (by rw [hsb]) rfl

/-! ### gained = the family is younger than the ancestral genome -/

/-- the taxon of the root of the family a located member belongs to (its top-level HOG, or the member itself): on a chain the
    j-th ancestor sits j+1 levels up, so the last one sits `anc.length` levels up -/
def Loc.rootTx (l : Loc) : Taxon := l.node.tx.drop l.anc.length

/-- `rootTx` is the taxon of the family's root -/
theorem rootTx_is_top (H : Ham) (hw : H.WFc) (r : Loc) (hr : r ∈ H.allLocs) :
    (r.anc = [] → r.rootTx = r.node.tx) ∧ (∀ top, r.anc.getLast? = some top → top.tx = r.rootTx) := by
  constructor
  · intro h
    simp [Loc.rootTx, h]
  · intro top ht
    have hc := allLocs_chain hw hr
    have hne : r.anc ≠ [] := by
      intro h
      simp [h] at ht
    have hpos : 0 < r.anc.length := List.length_pos_iff.mpr hne
    have hi : r.anc.length - 1 < r.anc.length := by omega
    have htx := chain_tx_drop _ _ hc (r.anc.length - 1) hi
    have hl : r.anc[r.anc.length - 1] = top := by
      rw [List.getLast?_eq_getElem?] at ht
      have := List.getElem?_eq_getElem hi
      rw [this] at ht
      exact Option.some.inj ht
    rw [hl] at htx
    have : r.anc.length - 1 + 1 = r.anc.length := by omega
    rw [this] at htx
    exact htx

/-- **C06, first clause, read off the family**: a member of a genome below `a` has no ancestor in the genome at `a` --
    it is reported as GAINED in the comparison with `a` -- iff its family's root is younger than `a` (strictly below it);
    equivalently iff its chain of ancestors is too short to reach `a` -/
theorem gained_iff_young (H : Ham) (hw : H.WFc) (a : Taxon) (r : Loc) (hr : r ∈ H.allLocs)
    (had : a <:+ r.node.tx) (hne : a ≠ r.node.tx) :
    ((search a r).1 = none ↔ r.anc.length + a.length < r.node.tx.length) ∧
    ((search a r).1 = none ↔ ¬ (r.rootTx <:+ a)) := by
  have hc := allLocs_chain hw hr
  have hlen := chain_length_le _ _ hc
  have halt := suffix_length_lt had hne
  have first : (search a r).1 = none ↔ r.anc.length + a.length < r.node.tx.length := by
    rw [search_none_iff, chain_none_iff hc had hne]
  refine ⟨first, ?_⟩
  rw [first]
  unfold Loc.rootTx
  constructor
  · intro h hs
    have := hs.length_le
    rw [List.length_drop] at this
    omega
  · intro h
    refine Nat.lt_of_not_le fun hge => h ?_
    -- a = tx.drop k with k ≤ anc.length: tx.drop anc.length is a suffix of it
    rw [List.suffix_iff_eq_drop.mp had]
    have : r.anc.length = (r.node.tx.length - a.length) + (r.anc.length - (r.node.tx.length - a.length)) := by omega
    rw [this, ← List.drop_drop]
    exact List.drop_suffix _ _

/-- **C06, first clause, for a whole comparison** `a → d` of a well-formed analysis: the GAINED genes are exactly the
    members of `d` whose family is rooted strictly below `a` -/
theorem C06_gained_iff_family_younger (H : Ham) (hw : H.WFc) (a d : Taxon) (had : a <:+ d) (hne : a ≠ d) (n : Node) :
    n ∈ (hogsMap H a d).gain ↔ ∃ r ∈ H.nodesAt d, r.node = n ∧ ¬ (r.rootTx <:+ a) := by
  rw [gained_iff_search]
  refine exists_congr fun r => and_congr_right fun hr => and_congr_right fun _ => ?_
  obtain ⟨hrl, hrt⟩ := nodesAt_allLocs hr
  exact (gained_iff_young H hw a r hrl (hrt.symm ▸ had) (hrt.symm ▸ hne)).2

end Pyham
