/-
  C11 / C14 / C01: FAMILY LOCALITY.  What the loader builds for one top-level orthologGroup does not depend
  on what else the file contains: loading the group in the middle of a file gives the hierarchy that loading
  it alone gives, with every object number (HOG creation counter, DuplicationNode number) shifted by the
  number of objects created before (`family_local`, `families_local`, `C11_family_identical`).

  `sh_f`, `ks_f`: `f` commutes with shifting; `shift_f`: shifting does not change `f` (what the properties read);
  `aft_f`: the step `f` of the loader, run on shifted arguments in the state `aft o ps`, gives the shifted result of
  running it in `ps`.  Where such a proof ends in `simp [aft, …]`, both sides are structure literals equal field by
  field, up to `Nat.add_right_comm`.
-/
import PyhamModel.Model.Parser
import PyhamModel.Lemmas.Leaves
import PyhamModel.Lemmas.Frames
import PyhamModel.Lemmas.LoaderEqns
namespace Pyham
open Except

def Key.shift (k : Nat) : Key → Key
  | .g id => .g id
  | .h u => .h (u + k)

def DupRec.shift (k : Nat) (r : DupRec) : DupRec :=
  { r with did := r.did + k, members := r.members.map (Key.shift k) }

def DupBuild.shift (k : Nat) (b : DupBuild) : DupBuild :=
  { b with did := b.did + k, members := b.members.map (Key.shift k) }

def PFrame.shift (k : Nat) (f : PFrame) : PFrame := { f with did := f.did + k }

mutual
/-- the same hierarchy with every object number increased by `k` -/
def Node.shift (k : Nat) : Node → Node
  | .gene i t d l => .gene i t (d.map (· + k)) l
  | .hog info t d ks ds =>
    .hog { info with uid := info.uid + k } t (d.map (· + k)) (Node.shiftL k ks) (ds.map (DupRec.shift k))
def Node.shiftL (k : Nat) : List Node → List Node
  | [] => []
  | n :: ns => n.shift k :: Node.shiftL k ns
end

/-- between two top-level families: no paralogGroup is open -/
def PS.idle (ps : PS) : Prop := ps.pstack = [] ∧ ps.inPG = none ∧ ps.cur = none

/-- every DuplicationNode created so far has a number below the creation counter -/
def PS.fresh (ps : PS) : Prop := ∀ b ∈ ps.dstore, b.did < ps.next

/-- the state after loading, on top of `ps0`, what alone leads to `ps'` -/
def PS.after (ps0 ps' : PS) : PS :=
  { pstack := ps'.pstack.map (PFrame.shift ps0.next) ++ ps0.pstack,
    inPG := ps'.inPG, cur := ps'.cur.map (· + ps0.next),
    dstore := ps0.dstore ++ ps'.dstore.map (DupBuild.shift ps0.next),
    next := ps0.next + ps'.next,
    reg := ps0.reg ++ ps'.reg.map fun e => (e.1, e.2.shift ps0.next) }

/-! ### the loader commutes with shifting on top of an old state -/

theorem shiftL_eq_map (k : Nat) (l : List Node) : Node.shiftL k l = l.map (Node.shift k) := by
  induction l with
  | nil => rfl
  | cons x xs ih => simp [Node.shiftL, ih]

theorem nat_add_beq (a d k : Nat) : (a + k == d + k) = (a == d) := by
  rw [Bool.eq_iff_iff]
  simp
attribute [local simp] nat_add_beq

theorem Key.shift_inj (k : Nat) (a b : Key) : a.shift k = b.shift k ↔ a = b := by
  cases a <;> cases b <;> simp [Key.shift]

@[simp] theorem Key.shift_beq (k : Nat) (a b : Key) : (a.shift k == b.shift k) = (a == b) := by
  rw [Bool.eq_iff_iff]
  simp [Key.shift_inj]

@[simp] theorem ks_contains (k : Nat) (l : List Key) (x : Key) :
    (l.map (Key.shift k)).contains (x.shift k) = l.contains x := by
  induction l with
  | nil => rfl
  | cons a l ih => simp only [List.map_cons, List.contains_cons, Key.shift_beq, ih]

@[simp] theorem ks_erase (k : Nat) (l : List Key) (x : Key) :
    (l.map (Key.shift k)).erase (x.shift k) = (l.erase x).map (Key.shift k) := by
  induction l with
  | nil => rfl
  | cons a l ih =>
    simp only [List.map_cons, List.erase_cons, Key.shift_beq, ih]
    split <;> simp

theorem ks_sameKeys (k : Nat) (a b : List Key) :
    sameKeys (a.map (Key.shift k)) (b.map (Key.shift k)) = sameKeys a b := by
  simp only [sameKeys, List.all_map, Function.comp_def, ks_contains]

@[simp] theorem sh_tx (k : Nat) (n : Node) : (n.shift k).tx = n.tx := by
  cases n <;> rfl
@[simp] theorem sh_key (k : Nat) (n : Node) : (n.shift k).key = n.key.shift k := by
  cases n <;> rfl
@[simp] theorem sh_dup (k : Nat) (n : Node) : (n.shift k).dup = n.dup.map (· + k) := by
  cases n <;> rfl
theorem sh_setDup (k : Nat) (d : Option Nat) (n : Node) :
    (n.shift k).setDup (d.map (· + k)) = (n.setDup d).shift k := by
  cases n <;> rfl
@[simp] theorem sh_chainId (k : Nat) (hid : Option String) (n : Node) : (n.shift k).chainId hid = n.chainId hid := by
  cases n with
  | gene i t d l => cases l <;> rfl
  | hog => rfl

theorem sh_map_tx (k : Nat) (l : List Node) : (l.map (Node.shift k)).map Node.tx = l.map Node.tx := by
  simp [List.map_map, Function.comp_def]
theorem sh_map_key (k : Nat) (l : List Node) :
    (l.map (Node.shift k)).map Node.key = (l.map Node.key).map (Key.shift k) := by
  simp [List.map_map, Function.comp_def]

theorem sh_eraseKey (k : Nat) (x : Key) (l : List Node) :
    eraseKey (x.shift k) (l.map (Node.shift k)) = (eraseKey x l).map (Node.shift k) := by
  induction l with
  | nil => rfl
  | cons a l ih =>
    simp only [List.map_cons, eraseKey, sh_key, Key.shift_beq, ih]
    split <;> simp

theorem sh_findKey (k : Nat) (x : Key) (l : List Node) :
    findKey (x.shift k) (l.map (Node.shift k)) = (findKey x l).map (Node.shift k) := by
  simp only [findKey, List.find?_map, Function.comp_def, sh_key, Key.shift_beq]

theorem sh_filter_dup (k d : Nat) (l : List Node) :
    (l.map (Node.shift k)).filter (·.dup == some (d + k)) = (l.filter (·.dup == some d)).map (Node.shift k) := by
  rw [List.filter_map]
  congr 1
  apply List.filter_congr
  intro x _
  simp only [Function.comp_def, sh_dup]
  cases x.dup <;> simp

theorem dedup_map {α β} [BEq α] [BEq β] (f : α → β) (hf : ∀ a b, (f a == f b) = (a == b)) (l : List α) :
    dedup (l.map f) = (dedup l).map f := by
  induction l with
  | nil => rfl
  | cons a l ih =>
    simp only [List.map_cons, dedup, ih, List.filter_map, Function.comp_def, bne, hf]

theorem sh_dupGroups (k : Nat) (l : List Node) :
    dupGroups (l.map (Node.shift k)) = (dupGroups l).map (· + k) := by
  unfold dupGroups
  rw [← dedup_map _ (by intro a b; exact nat_add_beq a b k)]
  congr 1
  induction l with
  | nil => rfl
  | cons a l ih =>
    simp only [List.map_cons, List.filterMap_cons, sh_dup, ih]
    cases a.dup <;> simp

def HogBuild.shift (k : Nat) (hb : HogBuild) : HogBuild :=
  { info := { hb.info with uid := hb.info.uid + k }, dup := hb.dup.map (· + k),
    kids := hb.kids.map (Node.shift k) }

theorem DupBuild.shift_members (k : Nat) (b : DupBuild) : (b.shift k).members = b.members.map (Key.shift k) := rfl

theorem DupBuild.shift_mrca (k : Nat) (b : DupBuild) : (b.shift k).mrca = b.mrca := rfl

/-- the state `ps` of an isolated run, seen on top of the old state `o`.  `PS.after` (in the statement of
    `family_local`) also keeps the frames of `o`, which the loader cannot see inside a group; the two agree when `o`
    has no open paralogGroup (`after_eq_aft`). -/
def aft (o ps : PS) : PS :=
  { pstack := ps.pstack.map (PFrame.shift o.next), inPG := ps.inPG, cur := ps.cur.map (· + o.next),
    dstore := o.dstore ++ ps.dstore.map (DupBuild.shift o.next), next := ps.next + o.next,
    reg := o.reg ++ ps.reg.map fun e => (e.1, e.2.shift o.next) }

theorem aft_next (o ps : PS) : (aft o ps).next = ps.next + o.next := rfl

theorem aft_pstack (o ps : PS) : (aft o ps).pstack = ps.pstack.map (PFrame.shift o.next) := rfl

theorem after_eq_aft (o ps : PS) (h : o.pstack = []) : o.after ps = aft o ps := by
  simp [PS.after, aft, h, Nat.add_comm]

theorem aft_getDup (o ps : PS) (hf : o.fresh) (d : Nat) :
    (aft o ps).getDup (d + o.next) = (ps.getDup d).map (DupBuild.shift o.next) := by
  simp only [PS.getDup, aft, List.find?_append]
  have h1 : o.dstore.find? (fun b => b.did == d + o.next) = none := by
    rw [List.find?_eq_none]
    intro b hb
    have := hf b hb
    simp
    omega
  rw [h1, List.find?_map]
  simp [Function.comp_def, DupBuild.shift]

theorem aft_modDup (o ps : PS) (hf : o.fresh) (d : Nat) (F f : DupBuild → DupBuild)
    (hFf : ∀ b, F (b.shift o.next) = (f b).shift o.next) :
    (aft o ps).modDup (d + o.next) F = aft o (ps.modDup d f) := by
  simp only [PS.modDup, aft, List.map_append, List.map_map, PS.mk.injEq, true_and, and_true]
  congr 1
  · conv => rhs; rw [← List.map_id o.dstore]
    apply List.map_congr_left
    intro b hb
    have := hf b hb
    have : ¬ (b.did = d + o.next) := by omega
    simp [this]
  · apply List.map_congr_left
    intro b _
    simp only [Function.comp_def, DupBuild.shift, nat_add_beq]
    split
    · exact hFf b
    · rfl

theorem aft_addMember (o ps : PS) (hf : o.fresh) (d : Nat) (x : Key) :
    (aft o ps).addMember (d + o.next) (x.shift o.next) = aft o (ps.addMember d x) := by
  unfold PS.addMember
  apply aft_modDup o ps hf
  intro b
  simp [DupBuild.shift]

theorem aft_register (o ps : PS) (t : Taxon) (x : Key) :
    (aft o ps).register t (x.shift o.next) = aft o (ps.register t x) := by
  simp [PS.register, aft]

theorem sh_mapM_tx (k : Nat) (kids : List Node) (l : List Key) :
    (l.map (Key.shift k)).mapM (fun x => (findKey x (kids.map (Node.shift k))).map Node.tx) =
      l.mapM (fun x => (findKey x kids).map Node.tx) := by
  induction l with
  | nil => rfl
  | cons a l ih =>
    simp only [List.map_cons, List.mapM_cons, ih, sh_findKey, Option.map_map, Function.comp_def, sh_tx]

theorem aft_setMRCA (o ps : PS) (hf : o.fresh) (kids : List Node) (d : Nat) :
    setMRCA (kids.map (Node.shift o.next)) (aft o ps) (d + o.next) = (setMRCA kids ps d).map (aft o) := by
  simp only [setMRCA, aft_getDup o ps hf]
  cases ps.getDup d with
  | none => rfl
  | some b =>
    simp only [Option.map_some]
    rw [DupBuild.shift_members, sh_mapM_tx]
    have hmod : ∀ u : Taxon, (aft o ps).modDup (d + o.next) (fun b => { b with mrca := some u }) =
        aft o (ps.modDup d fun b => { b with mrca := some u }) := by
      intro u
      apply aft_modDup o ps hf
      intro b
      rfl
    cases b.members.mapM (fun x => (findKey x kids).map Node.tx) with
    | none => rfl
    | some taxa =>
      simp only [hmod]
      split
      · rfl
      · split <;> rfl
      · split <;> rfl

theorem aft_bump_register (o ps : PS) (t : Taxon) :
    PS.register { aft o ps with next := (aft o ps).next + 1 } t (.h (aft o ps).next) =
      aft o (PS.register { ps with next := ps.next + 1 } t (.h ps.next)) := by
  simp [PS.register, aft, Key.shift, Nat.add_right_comm]

theorem sh_chainHog (k uid : Nat) (hid : Option String) (t : Taxon) (cur : Node) :
    Node.hog (chainInfo (uid + k) hid) t none [cur.shift k] [] =
      (Node.hog (chainInfo uid hid) t none [cur] []).shift k := by
  simp [Node.shift, Node.shiftL, chainInfo]

theorem aft_addMissing (o : PS) (hid : Option String) (ts : List Taxon) (cur : Node) (ps : PS) :
    addMissing hid (cur.shift o.next) ts (aft o ps) =
      (addMissing hid cur ts ps).map (fun r => (r.1.shift o.next, aft o r.2)) := by
  induction ts generalizing cur ps with
  | nil => rfl
  | cons t ts ih =>
    simp only [addMissing, sh_tx]
    rw [aft_bump_register]
    refine ite_eq_map_ite (fun _ => rfl) fun _ => ?_
    rw [aft_next, sh_chainHog, ih]

theorem map_snoc {α β} (f : α → β) (l : List α) (x : α) : l.map f ++ [f x] = (l ++ [x]).map f := by
  simp

theorem aft_genericPass (o : PS) (hid : Option String) (level : Taxon) (cs kids : List Node) (ps : PS) :
    genericPass hid level (cs.map (Node.shift o.next)) (kids.map (Node.shift o.next)) (aft o ps) =
      (genericPass hid level cs kids ps).map (fun r => (r.1.map (Node.shift o.next), aft o r.2)) := by
  induction cs generalizing kids ps with
  | nil => rfl
  | cons c cs ih =>
    simp only [List.map_cons, genericPass, sh_key, sh_eraseKey, sh_chainId, sh_tx, aft_addMissing]
    refine map_bind_eq fun r => ?_
    simp only [map_snoc]
    exact ih _ r.2

/-- `sh_setDup` where rewriting cannot see `none` or `some (d + k)` as `d.map (· + k)` -/
theorem sh_setDup_none (k : Nat) (n : Node) : (n.shift k).setDup none = (n.setDup none).shift k :=
  sh_setDup k none n
theorem sh_setDup_some (k d : Nat) (n : Node) :
    (n.shift k).setDup (some (d + k)) = (n.setDup (some d)).shift k :=
  sh_setDup k (some d) n

theorem aft_rehomeUnder (o : PS) (hid : Option String) (mrcaTx : Taxon) (cs kids mk : List Node) (ps : PS) :
    rehomeUnder hid mrcaTx (cs.map (Node.shift o.next)) (kids.map (Node.shift o.next))
        (mk.map (Node.shift o.next)) (aft o ps) =
      (rehomeUnder hid mrcaTx cs kids mk ps).map
        (fun r => (r.1.map (Node.shift o.next), r.2.1.map (Node.shift o.next), aft o r.2.2)) := by
  induction cs generalizing kids mk ps with
  | nil => rfl
  | cons c cs ih =>
    simp only [List.map_cons, rehomeUnder, sh_key, sh_eraseKey, sh_chainId, sh_tx, sh_setDup_none,
      aft_addMissing]
    refine map_bind_eq fun r => ?_
    simp only [map_snoc]
    exact ih _ _ r.2

theorem aft_rehomeDirect (o : PS) (hid : Option String) (level : Taxon) (d : Nat) (cs kids : List Node)
    (mem : List Key) (ps : PS) :
    rehomeDirect hid level (d + o.next) (cs.map (Node.shift o.next)) (kids.map (Node.shift o.next))
        (mem.map (Key.shift o.next)) (aft o ps) =
      (rehomeDirect hid level d cs kids mem ps).map
        (fun r => (r.1.map (Node.shift o.next), r.2.1.map (Key.shift o.next), aft o r.2.2)) := by
  induction cs generalizing kids mem ps with
  | nil => rfl
  | cons c cs ih =>
    simp only [List.map_cons, rehomeDirect, sh_key, sh_eraseKey, sh_chainId, sh_tx, sh_setDup_none,
      aft_addMissing]
    refine map_bind_eq fun r => ?_
    simp only [ks_contains, sh_key, ks_erase, sh_setDup_some, map_snoc]
    exact ite_eq_map_ite (fun _ => rfl) fun _ => ih _ _ r.2

def CloseSt.shift (o : PS) (st : CloseSt) : CloseSt :=
  { kids := st.kids.map (Node.shift o.next), dups := st.dups.map (DupRec.shift o.next), ps := aft o st.ps }

/-- `aft_rehomeUnder` at `[]`, which rewriting cannot see as `[].map _` -/
theorem aft_rehomeUnder_nil (o : PS) (hid : Option String) (mrcaTx : Taxon) (cs kids : List Node) (ps : PS) :
    rehomeUnder hid mrcaTx (cs.map (Node.shift o.next)) (kids.map (Node.shift o.next)) [] (aft o ps) =
      (rehomeUnder hid mrcaTx cs kids [] ps).map
        (fun r => (r.1.map (Node.shift o.next), r.2.1.map (Node.shift o.next), aft o r.2.2)) :=
  aft_rehomeUnder o hid mrcaTx cs kids [] ps

theorem aft_dupUnder (o : PS) (hf : o.fresh) (hid : Option String) (st : CloseSt) (d : Nat) (b : DupBuild)
    (mrcaTx : Taxon) :
    dupUnder hid (st.shift o) (d + o.next) (b.shift o.next) mrcaTx =
      (dupUnder hid st d b mrcaTx).map (CloseSt.shift o) := by
  obtain ⟨kids, dups, ps⟩ := st
  simp only [dupUnder, CloseSt.shift, sh_filter_dup]
  rw [aft_bump_register, aft_rehomeUnder_nil]
  refine map_bind_eq fun r => ?_
  simp only [Except.map, CloseSt.shift, Except.ok.injEq, CloseSt.mk.injEq, true_and]
  refine ⟨?_, ?_⟩
  · simp only [chainInfo, aft_next, List.map_map, Function.comp_def, sh_setDup_some, sh_key, List.map_append,
      List.map_cons, Node.shift, Option.map_none, shiftL_eq_map, DupRec.shift, DupBuild.shift, List.map_nil]
  · apply aft_modDup o r.2.2 hf
    intro b
    simp only [DupBuild.shift, List.map_map, Function.comp_def, setDup_key, sh_key]

theorem aft_dupDirect (o : PS) (hf : o.fresh) (hid : Option String) (level : Taxon) (st : CloseSt) (d : Nat)
    (b : DupBuild) (mrcaTx : Taxon) :
    dupDirect hid level (st.shift o) (d + o.next) (b.shift o.next) mrcaTx =
      (dupDirect hid level st d b mrcaTx).map (CloseSt.shift o) := by
  obtain ⟨kids, dups, ps⟩ := st
  simp only [dupDirect, CloseSt.shift, sh_filter_dup, DupBuild.shift_members]
  rw [aft_rehomeDirect]
  refine map_bind_eq fun r => ?_
  simp only [Except.map, CloseSt.shift, Except.ok.injEq, CloseSt.mk.injEq, true_and]
  refine ⟨?_, ?_⟩
  · simp only [List.map_append, List.map_cons, DupRec.shift, DupBuild.shift, List.map_nil]
  · apply aft_modDup o r.2.2 hf
    intro b
    simp only [DupBuild.shift]

theorem aft_dupStep (o : PS) (hf : o.fresh) (hid : Option String) (level : Taxon) (st : CloseSt) (d : Nat) :
    dupStep hid level (st.shift o) (d + o.next) = (dupStep hid level st d).map (CloseSt.shift o) := by
  rw [dupStep_eq, dupStep_eq]
  have hg : (st.shift o).ps.getDup (d + o.next) = (st.ps.getDup d).map (DupBuild.shift o.next) :=
    aft_getDup o st.ps hf d
  rw [hg]
  cases st.ps.getDup d with
  | none => rfl
  | some b =>
    simp only [Option.map_some, DupBuild.shift_mrca]
    cases b.mrca with
    | none => rfl
    | some mrcaTx =>
      have hk : sameKeys (DupBuild.shift o.next b).members
          (((st.shift o).kids.filter (·.dup == some (d + o.next))).map Node.key) =
          sameKeys b.members ((st.kids.filter (·.dup == some d)).map Node.key) := by
        simp only [CloseSt.shift, DupBuild.shift, sh_filter_dup, sh_map_key, ks_sameKeys]
      simp only [hk]
      exact ite_eq_map_ite (fun _ => rfl) fun _ =>
        ite_eq_map_ite (fun _ => aft_dupUnder o hf hid st d b mrcaTx) fun _ => aft_dupDirect o hf hid level st d b mrcaTx

theorem aft_dupSteps (o : PS) (hf : o.fresh) (hid : Option String) (level : Taxon) (ds : List Nat)
    (st : CloseSt) :
    dupSteps hid level (ds.map (· + o.next)) (st.shift o) = (dupSteps hid level ds st).map (CloseSt.shift o) := by
  induction ds generalizing st with
  | nil => rfl
  | cons d ds ih =>
    simp only [List.map_cons, dupSteps, aft_dupStep o hf]
    exact map_bind_eq fun st1 => ih st1

theorem sh_inferLevel (k : Nat) (env : Env) (hb : HogBuild) : inferLevel env (hb.shift k) = inferLevel env hb := by
  simp only [inferLevel, HogBuild.shift, sh_map_tx]
  rfl

theorem aft_liftLevel (o : PS) (hf : o.fresh) (ps : PS) (kids : List Node) (lv : Taxon) :
    liftLevel (aft o ps) (kids.map (Node.shift o.next)) lv = liftLevel ps kids lv := by
  induction kids generalizing lv with
  | nil => rfl
  | cons c cs ih =>
    simp only [List.map_cons, liftLevel, sh_dup]
    cases c.dup with
    | none => exact ih lv
    | some d =>
      simp only [Option.map_some, aft_getDup o ps hf]
      cases ps.getDup d with
      | none => rfl
      | some b =>
        simp only [Option.map_some, DupBuild.shift_mrca]
        cases b.mrca with
        | none => rfl
        | some m => exact ih _

theorem aft_closeCollapse (o : PS) (hf : o.fresh) (top : Bool) (hb : HogBuild) (ps : PS) :
    closeCollapse top (hb.shift o.next) (aft o ps) =
      (closeCollapse top hb ps).map (fun r => (r.1.map (Node.shift o.next), aft o r.2)) := by
  unfold closeCollapse
  refine ite_eq_map_ite (fun _ => rfl) fun _ => ?_
  obtain ⟨info, dup, kids⟩ := hb
  cases dup with
  | none => rfl
  | some d =>
    simp only [HogBuild.shift, Option.map_some, aft_getDup o ps hf]
    cases ps.getDup d with
    | none => rfl
    | some b =>
      have hk : Key.h (info.uid + o.next) = (Key.h info.uid).shift o.next := rfl
      simp only [Option.map_some, hk, DupBuild.shift_members, ks_contains, ks_erase, sh_map_key, ← List.map_append]
      rw [aft_modDup o ps hf d _
        (fun b_1 => { b_1 with members := b.members.erase (Key.h info.uid) ++ kids.map Node.key }) (fun _ => rfl)]
      refine ite_eq_map_ite (fun _ => rfl) fun _ => ?_
      -- the match on the `pstack` of the rewritten state reduces once that state is taken apart
      generalize (ps.modDup d fun b_1 =>
        ({ b_1 with members := b.members.erase (Key.h info.uid) ++ kids.map Node.key } : DupBuild)) = X
      obtain ⟨pstack, inPG, cur, dstore, next, reg⟩ := X
      cases pstack with
      | nil => rfl
      | cons f fs =>
        simp only [aft, List.map_cons, PFrame.shift, List.map_map, Function.comp_def, sh_setDup_some, Except.map]

theorem aft_closeAt (o : PS) (hf : o.fresh) (hb : HogBuild) (ps : PS) (lv0 : Taxon) :
    closeAt (hb.shift o.next) (aft o ps) lv0 =
      (closeAt hb ps lv0).map (fun r => (r.1.map (Node.shift o.next), aft o r.2)) := by
  obtain ⟨info, dup, kids⟩ := hb
  simp only [closeAt, HogBuild.shift, aft_liftLevel o hf]
  refine bind_eq_map_bind fun level => ?_
  have hk : Key.h (info.uid + o.next) = (Key.h info.uid).shift o.next := rfl
  have hst : CloseSt.mk (List.map (Node.shift o.next) kids) [] (aft o (ps.register level (Key.h info.uid))) =
      CloseSt.shift o (CloseSt.mk kids [] (ps.register level (Key.h info.uid))) := rfl
  rw [hk, aft_register, sh_dupGroups, hst, aft_dupSteps o hf]
  refine map_bind_eq fun st => ?_
  have hfl : List.filter (fun c => List.length c.tx != List.length level + 1)
      (st.kids.map (Node.shift o.next)) =
      (List.filter (fun c => List.length c.tx != List.length level + 1) st.kids).map (Node.shift o.next) := by
    rw [List.filter_map]
    simp only [Function.comp_def, sh_tx]
  simp only [CloseSt.shift, hfl, aft_genericPass]
  refine map_bind_eq fun r => ?_
  simp only [Except.map, List.map_cons, Node.shift, shiftL_eq_map, List.map_nil]

theorem aft_closeOg (o : PS) (hf : o.fresh) (env : Env) (top : Bool) (hb : HogBuild) (ps : PS) :
    closeOg env top (hb.shift o.next) (aft o ps) =
      (closeOg env top hb ps).map (fun r => (r.1.map (Node.shift o.next), aft o r.2)) := by
  rw [closeOg_eq, closeOg_eq, sh_inferLevel]
  cases inferLevel env hb with
  | error e => rfl
  | ok lv =>
    cases lv with
    | collapse => exact aft_closeCollapse o hf top hb ps
    | «at» lv0 => exact aft_closeAt o hf hb ps lv0

/-- `pgOpen` once the number of the DuplicationNode is chosen -/
def pgOpen2 (len did : Nat) (ps : PS) : PS :=
  let size := match ps.getDup did with | some b => b.members.length | none => 0
  { ps with pstack := { depth := len, did := did, size := size } :: ps.pstack, inPG := some len, cur := some did }

theorem aft_pgOpen2 (o : PS) (hf : o.fresh) (len did : Nat) (ps : PS) :
    pgOpen2 len (did + o.next) (aft o ps) = aft o (pgOpen2 len did ps) := by
  simp only [pgOpen2, aft_getDup o ps hf]
  cases ps.getDup did with
  | none => simp [aft, PFrame.shift]
  | some b => simp [aft, PFrame.shift, DupBuild.shift]

theorem aft_newDup (o ps : PS) (pgid : Option String) :
    newDup (aft o ps) pgid = ((newDup ps pgid).1 + o.next, aft o (newDup ps pgid).2) := by
  simp [newDup, aft, DupBuild.shift, Key.shift, Nat.add_right_comm]

theorem pgOpen_eq (len : Nat) (pgid : Option String) (ps : PS) :
    pgOpen len pgid ps =
      match ps.pstack with
      | f :: _ => if f.depth == len then pgOpen2 len f.did ps else pgOpen2 len (newDup ps pgid).1 (newDup ps pgid).2
      | [] => pgOpen2 len (newDup ps pgid).1 (newDup ps pgid).2 := by
  unfold pgOpen pgOpen2
  obtain ⟨pstack, inPG, cur, dstore, next, reg⟩ := ps
  cases pstack with
  | nil => rfl
  | cons f fs =>
    simp only []
    split <;> rfl

theorem aft_pgOpen (o : PS) (hf : o.fresh) (len : Nat) (pgid : Option String) (ps : PS) :
    pgOpen len pgid (aft o ps) = aft o (pgOpen len pgid ps) := by
  rw [pgOpen_eq, pgOpen_eq]
  rw [aft_pstack, aft_newDup]
  cases ps.pstack with
  | nil => exact aft_pgOpen2 o hf _ _ _
  | cons f fs =>
    simp only [List.map_cons]
    have h1 : (PFrame.shift o.next f).depth = f.depth := rfl
    have h2 : (PFrame.shift o.next f).did = f.did + o.next := rfl
    rw [h1, h2]
    split
    · exact aft_pgOpen2 o hf _ _ _
    · exact aft_pgOpen2 o hf _ _ _

theorem aft_pgClose (o : PS) (hf : o.fresh) (kids : List Node) (ps : PS) :
    pgClose (kids.map (Node.shift o.next)) (aft o ps) = (pgClose kids ps).map (aft o) := by
  rw [pgClose, pgClose, aft_pstack]
  cases ps.pstack with
  | nil => rfl
  | cons f fs =>
    have hd : (PFrame.shift o.next f).did = f.did + o.next := rfl
    have hfs : ({ aft o ps with pstack := fs.map (PFrame.shift o.next) } : PS) = aft o { ps with pstack := fs } := rfl
    simp only [List.map_cons, hd, aft_getDup o ps hf, hfs, aft_setMRCA o _ hf]
    cases ps.getDup f.did with
    | none => rfl
    | some b =>
      simp only [Option.map_some, DupBuild.shift, PFrame.shift, List.length_map]
      refine ite_eq_map_ite (fun _ => rfl) fun _ => map_bind_eq fun p => ?_
      cases fs with
      | nil => rfl
      | cons g gs => rfl

theorem aft_bump (o ps : PS) :
    { aft o ps with next := (aft o ps).next + 1 } = aft o { ps with next := ps.next + 1 } := by
  simp [aft, Nat.add_right_comm]

theorem aft_newMember (o : PS) (hf : o.fresh) (len : Nat) (k : Key) (ps : PS) :
    newMember len (k.shift o.next) (aft o ps) =
      ((newMember len k ps).1.map (· + o.next), aft o (newMember len k ps).2) := by
  unfold newMember
  have h1 : (aft o ps).inPG = ps.inPG := rfl
  have h2 : (aft o ps).cur = ps.cur.map (· + o.next) := rfl
  rw [h1, h2]
  split
  · cases ps.cur with
    | none => rfl
    | some d => simp only [Option.map_some, aft_addMember o _ hf]
  · rfl

theorem aft_openOg (o : PS) (hf : o.fresh) (len : Nat) (hid og : Option String) (ps : PS) :
    openOg len hid og (aft o ps) = ((openOg len hid og ps).1.shift o.next, aft o (openOg len hid og ps).2) := by
  unfold openOg ogStart
  rw [aft_bump]
  have hk : Key.h (aft o ps).next = (Key.h ps.next).shift o.next := rfl
  rw [hk, aft_newMember o hf]
  rfl

theorem aft_elems_of (o : PS) (env : Env) (es : List Elem)
    (h : ∀ e ∈ es, ∀ len hb ps, elem env len e (hb.shift o.next) (aft o ps) =
      (elem env len e hb ps).map (fun r => (r.1.shift o.next, aft o r.2)))
    (len : Nat) (hb : HogBuild) (ps : PS) :
    elems env len es (hb.shift o.next) (aft o ps) =
      (elems env len es hb ps).map (fun r => (r.1.shift o.next, aft o r.2)) := by
  induction es generalizing hb ps with
  | nil => rfl
  | cons e es ih =>
    rw [List.forall_mem_cons] at h
    rw [elems_cons, elems_cons, h.1 len hb ps]
    exact map_bind_eq fun r => ih h.2 r.1 r.2

theorem aft_elem (o : PS) (hf : o.fresh) (env : Env) : (e : Elem) → (len : Nat) → (hb : HogBuild) → (ps : PS) →
    elem env len e (hb.shift o.next) (aft o ps) =
      (elem env len e hb ps).map (fun r => (r.1.shift o.next, aft o r.2)) := by
  intro e
  induction e using Elem.induct with
  | ref id loft =>
    intro len hb ps
    rw [elem_ref, elem_ref]
    cases env.lookupGene id with
    | none => rfl
    | some t =>
      have hfl : newMember len (.g id) (aft o ps) = _ := aft_newMember o hf len (.g id) ps
      simp only [hfl, Except.map, HogBuild.shift, List.map_append, List.map_cons, List.map_nil, Node.shift]
  | score id v => exact fun _ _ _ => rfl
  | prop n v => exact fun _ _ _ => rfl
  | pg pgid its ih =>
    intro len hb ps
    rw [elem_pg, elem_pg, aft_pgOpen o hf, aft_elems_of o env its ih len hb]
    refine map_bind_eq fun r => ?_
    have hk : (HogBuild.shift o.next r.1).kids = r.1.kids.map (Node.shift o.next) := rfl
    rw [hk, aft_pgClose o hf]
    exact map_bind_eq fun p => rfl
  | og hid og its ih =>
    intro len hb ps
    rw [elem_og, elem_og, aft_openOg o hf, aft_elems_of o env its ih (len + 1)]
    refine map_bind_eq fun r => ?_
    rw [aft_closeOg o hf]
    refine map_bind_eq fun s => ?_
    simp only [Except.map, HogBuild.shift, List.map_append]

theorem aft_elems (o : PS) (hf : o.fresh) (env : Env) (es : List Elem) (len : Nat) (hb : HogBuild) (ps : PS) :
    elems env len es (hb.shift o.next) (aft o ps) =
      (elems env len es hb ps).map (fun r => (r.1.shift o.next, aft o r.2)) :=
  aft_elems_of o env es (fun e _ => aft_elem o hf env e) len hb ps

theorem idle_eq_aft (o : PS) (hi : o.idle) : o = aft o {} := by
  obtain ⟨pstack, inPG, cur, dstore, next, reg⟩ := o
  obtain ⟨h1, h2, h3⟩ := hi
  simp only at h1 h2 h3
  subst h1 h2 h3
  simp [aft]

/-- **locality of one family**: loading a top-level orthologGroup after anything (with no paralogGroup open)
    is loading it alone, shifted; errors are the same errors -/
theorem family_local (env : Env) (hid og : Option String) (its : List Elem) (tops0 : List Node) (ps0 : PS)
    (hi : ps0.idle) (hf : ps0.fresh) :
    topElem env none (.og hid og its) tops0 ps0 =
      match topElem env none (.og hid og its) [] {} with
      | .error e => .error e
      | .ok (res, ps') => .ok (tops0 ++ Node.shiftL ps0.next res, ps0.after ps') := by
  conv => lhs; rw [idle_eq_aft ps0 hi]
  rw [topElem_og_none, topElem_og_none, aft_openOg ps0 hf, aft_elems ps0 hf env its 1]
  cases elems env 1 its (openOg 0 hid og {}).1 (openOg 0 hid og {}).2 with
  | error e => rfl
  | ok r =>
    simp only [Except.map, Except.bind, aft_closeOg ps0 hf]
    cases closeOg env true r.1 r.2 with
    | error e => rfl
    | ok s => simp [shiftL_eq_map, after_eq_aft _ _ hi.1]


/-- outside every paralogGroup nothing is flagged -/
def PS.J (ps : PS) : Prop := ps.pstack = [] → ps.inPG = none ∧ ps.cur = none

/-- what an element or the closing of a group does to the state, seen from between two top-level groups: as many
    paralogGroups open, the counter not smaller, `J` and `fresh` kept (implications: a step need not establish them) -/
def Step (ps ps' : PS) : Prop :=
  ps'.pstack.length = ps.pstack.length ∧ ps.next ≤ ps'.next ∧ (ps.J → ps'.J) ∧ (ps.fresh → ps'.fresh)

theorem Step.refl (ps : PS) : Step ps ps := ⟨rfl, Nat.le_refl _, id, id⟩

theorem Step.trans {a b c : PS} (h1 : Step a b) (h2 : Step b c) : Step a c :=
  ⟨h2.1.trans h1.1, Nat.le_trans h1.2.1 h2.2.1, fun h => h2.2.2.1 (h1.2.2.1 h), fun h => h2.2.2.2 (h1.2.2.2 h)⟩

theorem FrC.fresh {ps ps' : PS} (h : FrC ps ps') (hf : ps.fresh) : ps'.fresh := by
  intro b hb
  have hd : b.did ∈ ps'.dstore.map (·.did) := List.mem_map_of_mem hb
  rw [h.dids] at hd
  obtain ⟨b0, hb0, he⟩ := List.mem_map.mp hd
  rw [← he]
  exact Nat.lt_of_lt_of_le (hf b0 hb0) h.next

theorem FrC.step {ps ps' : PS} (h : FrC ps ps') : Step ps ps' := by
  refine ⟨by rw [h.pstack], h.next, ?_, h.fresh⟩
  intro hj hp
  rw [h.pstack] at hp
  rw [h.inpg, h.cur]
  exact hj hp

theorem step_head (X : PS) (f f' : PFrame) (fs : List PFrame) (hp : X.pstack = f :: fs) :
    Step X { X with pstack := f' :: fs } := by
  refine ⟨by simp [hp], Nat.le_refl _, ?_, id⟩
  intro _ hp'
  cases hp'

theorem step_closeOg (env : Env) (top : Bool) (hb : HogBuild) (ps : PS) :
    (closeOg env top hb ps).All fun r => Step ps r.2 := by
  rw [closeOg]
  apply All.bind all_true
  intro lv _
  split
  · split
    · trivial
    · split
      · exact Step.refl ps
      · split
        · split
          · trivial
          · dsimp only
            split
            · trivial
            · rename_i f fs hp
              refine Step.trans (FrC.step (FrC.modDup ps _ _ ?_)) (step_head _ f _ fs hp)
              exact fun _ => rfl
        · trivial
  · apply All.bind all_true
    intro level _
    apply (keep_dupSteps ..).bind
    intro st h1
    apply (keep_genericPass ..).bind
    intro r h2
    exact ((FrC.register ps level _).trans (h1.trans h2)).step

theorem fresh_newDup (ps : PS) (pgid : Option String) (hf : ps.fresh) : (newDup ps pgid).2.fresh := by
  intro b hb
  simp only [newDup, List.mem_append, List.mem_singleton] at hb ⊢
  rcases hb with hb | rfl
  · exact Nat.lt_succ_of_lt (hf b hb)
  · exact Nat.lt_succ_self _

theorem step_pgOpen (len : Nat) (pgid : Option String) (ps : PS) :
    (pgOpen len pgid ps).pstack.length = ps.pstack.length + 1 ∧ ps.next ≤ (pgOpen len pgid ps).next ∧
      (ps.fresh → (pgOpen len pgid ps).fresh) := by
  have hn : ∀ did, (pgOpen2 len did (newDup ps pgid).2).pstack.length = ps.pstack.length + 1 ∧
      ps.next ≤ (pgOpen2 len did (newDup ps pgid).2).next ∧
      (ps.fresh → (pgOpen2 len did (newDup ps pgid).2).fresh) :=
    fun did => ⟨rfl, Nat.le_succ _, fresh_newDup ps pgid⟩
  rw [pgOpen_eq]
  split
  · split
    · exact ⟨rfl, Nat.le_refl _, id⟩
    · exact hn _
  · exact hn _

theorem step_pgClose (kids : List Node) (ps : PS) :
    (pgClose kids ps).All fun ps' =>
      ps'.pstack.length + 1 = ps.pstack.length ∧ ps'.J ∧ ps.next ≤ ps'.next ∧ (ps.fresh → ps'.fresh) := by
  rw [pgClose]
  split
  · trivial
  · rename_i f fs hp
    split
    · dsimp only
      split
      · trivial
      · apply (keep_setMRCA ..).bind
        intro p hk
        have hpp : p.pstack = fs := hk.pstack
        split
        · refine ⟨by simp [hp, hpp], ?_, hk.next, hk.fresh⟩
          intro hc
          simp [hpp] at hc
        · exact ⟨by simp [hp, hpp], fun _ => ⟨rfl, rfl⟩, hk.next, hk.fresh⟩
    · trivial

theorem step_elems_of (env : Env) (es : List Elem)
    (h : ∀ e ∈ es, ∀ len hb ps, (elem env len e hb ps).All fun r => Step ps r.2) (len : Nat) (hb : HogBuild)
    (ps : PS) : (elems env len es hb ps).All fun r => Step ps r.2 := by
  induction es generalizing hb ps with
  | nil => exact Step.refl ps
  | cons e es ih =>
    rw [List.forall_mem_cons] at h
    rw [elems_cons]
    apply (h.1 len hb ps).bind
    intro r hr
    exact (ih h.2 r.1 r.2).mono fun _ => hr.trans

theorem step_elem_all (env : Env) (e : Elem) (len : Nat) (hb : HogBuild) (ps : PS) :
    (elem env len e hb ps).All fun r => Step ps r.2 := by
  induction e using Elem.induct generalizing len hb ps with
  | ref id loft =>
    rw [elem_ref]
    split
    · trivial
    · exact (FrC.newMember len _ ps).step
  | score id v => exact Step.refl ps
  | prop n v => exact Step.refl ps
  | pg pgid its ih =>
    rw [elem_pg]
    apply (step_elems_of env its ih len hb _).bind
    intro r hr
    apply (step_pgClose ..).bind
    intro ps3 hc
    obtain ⟨o1, o2, o3⟩ := step_pgOpen len pgid ps
    obtain ⟨s1, s2, _, s4⟩ := hr
    obtain ⟨c1, c2, c3, c4⟩ := hc
    show Step ps ps3
    exact ⟨by omega, by omega, fun _ => c2, fun hf => c4 (s4 (o3 hf))⟩
  | og hid og its ih =>
    rw [elem_og]
    apply (step_elems_of env its ih (len + 1) _ _).bind
    intro r hr
    apply (step_closeOg ..).bind
    intro s hs
    exact ((FrC.openOg len hid og ps).step.trans hr).trans hs

theorem step_elems (env : Env) (es : List Elem) (len : Nat) (hb : HogBuild) (ps : PS) :
    (elems env len es hb ps).All fun r => Step ps r.2 :=
  step_elems_of env es (fun e _ => step_elem_all env e) len hb ps

theorem step_elem (env : Env) : (e : Elem) → (len : Nat) → (hb : HogBuild) → (ps : PS) →
    (hb' : HogBuild) → (ps' : PS) → elem env len e hb ps = .ok (hb', ps') → Step ps ps' :=
  fun e len hb ps _ _ h => (step_elem_all env e len hb ps).of_eq h

/-- loading a top-level orthologGroup leaves no paralogGroup open and keeps the numbering fresh -/
theorem family_idle_fresh (env : Env) (hid og : Option String) (its : List Elem) (tops0 tops1 : List Node) (ps0 ps1 : PS)
    (hi : ps0.idle) (hf : ps0.fresh)
    (h : topElem env none (.og hid og its) tops0 ps0 = .ok (tops1, ps1)) :
    ps1.idle ∧ ps1.fresh ∧ ps0.next ≤ ps1.next := by
  have hs : (topElem env none (.og hid og its) tops0 ps0).All fun r => Step ps0 r.2 := by
    rw [topElem_og_none]
    apply (step_elems env its 1 _ _).bind
    intro r hr
    apply (step_closeOg ..).bind
    intro s hs
    exact ((FrC.openOg 0 hid og ps0).step.trans hr).trans hs
  obtain ⟨s1, s2, s3, s4⟩ := hs.of_eq h
  have hp : ps1.pstack = [] := by
    rw [hi.1] at s1
    exact List.eq_nil_of_length_eq_zero s1
  exact ⟨⟨hp, s3 (fun _ => hi.2) hp⟩, s4 hf, s2⟩

theorem idle_empty : ({} : PS).idle := ⟨rfl, rfl, rfl⟩
theorem fresh_empty : ({} : PS).fresh := fun _ hb => nomatch hb

theorem families_aux (env : Env) (es : List Elem) (tops0 : List Node) (ps0 : PS) (tops : List Node) (ps : PS)
    (hi : ps0.idle) (hf : ps0.fresh) (h : topElems env none es tops0 ps0 = .ok (tops, ps))
    (hog : es.all isOg = true) :
    ∃ new, tops = tops0 ++ new ∧ new.length = es.length ∧
      ∀ i (h1 : i < new.length) (h2 : i < es.length),
        ∃ (n : Node) (ps' : PS) (k : Nat), topElem env none es[i] [] {} = .ok ([n], ps') ∧ new[i] = n.shift k := by
  induction es generalizing tops0 ps0 with
  | nil =>
    cases h
    exact ⟨[], (List.append_nil _).symm, rfl, fun i h1 => absurd h1 (Nat.not_lt_zero i)⟩
  | cons e es ih =>
    rw [topElems_cons] at h
    obtain ⟨⟨tops1, ps1⟩, hv, h⟩ := bind_ok h
    simp only [List.all_cons, Bool.and_eq_true] at hog
    obtain ⟨he, hes⟩ := hog
    cases e with
    | og hid og its =>
      obtain ⟨hi1, hf1, _⟩ := family_idle_fresh env hid og its tops0 tops1 ps0 ps1 hi hf hv
      have hl := family_local env hid og its tops0 ps0 hi hf
      rw [hv] at hl
      cases hal : topElem env none (.og hid og its) [] {} with
      | error err =>
        rw [hal] at hl
        cases hl
      | ok r =>
        obtain ⟨res, p'⟩ := r
        rw [hal] at hl
        simp only [Except.ok.injEq, Prod.mk.injEq] at hl
        obtain ⟨rfl, rfl⟩ := hl
        obtain ⟨x, hx, _⟩ := topOg_spec env hid og its [] {} res p' hal
        simp only [List.nil_append] at hx
        subst hx
        obtain ⟨new, rfl, hlen, hnew⟩ := ih _ _ hi1 hf1 h hes
        refine ⟨x.shift ps0.next :: new, List.append_assoc .., congrArg (· + 1) hlen, ?_⟩
        intro i h1' h2'
        cases i with
        | zero => exact ⟨x, p', ps0.next, hal, rfl⟩
        | succ i => exact hnew i (Nat.lt_of_succ_lt_succ h1') (Nat.lt_of_succ_lt_succ h2')
    | _ => cases he

/-- **every family of a file is the family loaded alone, shifted** -/
theorem families_local (env : Env) (es : List Elem) (tops : List Node) (ps : PS)
    (hog : es.all isOg = true) (h : topElems env none es [] {} = .ok (tops, ps)) :
    tops.length = es.length ∧
    ∀ i (h1 : i < tops.length) (h2 : i < es.length),
      ∃ (n : Node) (ps' : PS) (k : Nat), topElem env none es[i] [] {} = .ok ([n], ps') ∧ tops[i] = n.shift k := by
  obtain ⟨new, rfl, hl, hi⟩ := families_aux env es [] {} tops ps idle_empty fresh_empty h hog
  exact ⟨hl, hi⟩

/-- **C11 / C14 (position in the file, other families)**: if two files (e.g. a file and its projection onto
    the selected families, or the same families in another order) both load and contain the same top-level
    group `e`, the family loaded for `e` is the same hierarchy in both, up to the numbering of objects -/
theorem C11_family_identical (env : Env) (es es' : List Elem) (tops tops' : List Node) (ps ps' : PS)
    (hog : es.all isOg = true) (hog' : es'.all isOg = true)
    (h : topElems env none es [] {} = .ok (tops, ps)) (h' : topElems env none es' [] {} = .ok (tops', ps'))
    (i j : Nat) (hi : i < es.length) (hj : j < es'.length) (he : es[i] = es'[j]) :
    ∃ (n : Node) (k k' : Nat) (h1 : i < tops.length) (h2 : j < tops'.length),
      tops[i] = n.shift k ∧ tops'[j] = n.shift k' := by
  obtain ⟨l1, f1⟩ := families_local env es tops ps hog h
  obtain ⟨l2, f2⟩ := families_local env es' tops' ps' hog' h'
  have h1 : i < tops.length := by omega
  have h2 : j < tops'.length := by omega
  obtain ⟨n, p, k, a1, a2⟩ := f1 i h1 hi
  obtain ⟨n', p', k', b1, b2⟩ := f2 j h2 hj
  rw [he, b1] at a1
  simp only [Except.ok.injEq, Prod.mk.injEq, List.cons.injEq, and_true] at a1
  obtain ⟨rfl, _⟩ := a1
  exact ⟨n', k, k', h1, h2, a2, b2⟩

theorem shift_tx' (k : Nat) (n : Node) : (n.shift k).tx = n.tx := sh_tx k n

theorem shift_tx (k : Nat) (n : Node) : (n.shift k).tx = n.tx := sh_tx k n

mutual
/-- shifting changes nothing a property talks about (this and the next three lemmas): members, taxa, the shape of
    the hierarchy -/
theorem shift_leaves (k : Nat) : (n : Node) → (n.shift k).leaves = n.leaves
  | .gene .. => rfl
  | .hog info t d ks ds => by
    simp only [Node.shift, Node.leaves]
    exact shift_leaves_l k ks
theorem shift_leaves_l (k : Nat) : (l : List Node) → Node.leavesL (Node.shiftL k l) = Node.leavesL l
  | [] => rfl
  | n :: ns => by
    simp only [Node.shiftL, Node.leavesL, shift_leaves k n, shift_leaves_l k ns]
end

mutual
/-- levels of all HOGs, prefix order -/
theorem shift_hogs_tx (k : Nat) : (n : Node) → (n.shift k).hogs.map Node.tx = n.hogs.map Node.tx
  | .gene .. => rfl
  | .hog info t d ks ds => by
    simp only [Node.shift, Node.hogs, List.map_cons, Node.tx, shift_hogs_l k ks]
theorem shift_hogs_l (k : Nat) : (l : List Node) → (Node.hogsL (Node.shiftL k l)).map Node.tx = (Node.hogsL l).map Node.tx
  | [] => rfl
  | n :: ns => by
    simp only [Node.shiftL, Node.hogsL, List.map_append, shift_hogs_tx k n, shift_hogs_l k ns]
end

/-- the duplication grouping: which children of a HOG belong to which event is preserved (flags and record
    numbers move together) -/
theorem shift_dup_grouping (k : Nat) (info : HogInfo) (t : Taxon) (d : Option Nat) (ks : List Node) (ds : List DupRec) :
    ∃ info' ks' ds', (Node.hog info t d ks ds).shift k = .hog info' t (d.map (· + k)) ks' ds' ∧
      ks'.map Node.dup = ks.map (fun c => c.dup.map (· + k)) ∧ ds'.map (·.did) = ds.map (·.did + k) ∧
      ds'.map (·.mrca) = ds.map (·.mrca) ∧ ds'.map (·.pgid) = ds.map (·.pgid) ∧
      info'.hid = info.hid ∧ info'.scores = info.scores ∧ info'.props = info.props ∧ info'.synth = info.synth := by
  refine ⟨_, _, _, rfl, ?_, ?_, ?_, ?_, rfl, rfl, rfl, rfl⟩
  · simp [shiftL_eq_map, Function.comp_def]
  · simp [DupRec.shift, Function.comp_def]
  · simp [DupRec.shift, Function.comp_def]
  · simp [DupRec.shift, Function.comp_def]

end Pyham
