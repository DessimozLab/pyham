/-
  Ancestor chains: in an aligned forest the parent chain of a node at taxon `t` sits at the
  successive tails of `t`.  Basis of the theorems about the upward search (C05, C06, C07).
  `oneBelow_iff` and `suffix_length_lt` are the two facts about taxa this rests on.
-/
import PyhamModel.Model.WF
namespace Pyham

/-- `L` is a chain of ancestors above taxon `t`: each element one level above the previous one -/
def Chain : Taxon → List Node → Prop
  | _, [] => True
  | t, x :: xs => (∃ i, t = i :: x.tx) ∧ Chain x.tx xs

theorem oneBelow_iff {t : Taxon} {k : Node} : oneBelow t k = true ↔ ∃ i, k.tx = i :: t := by
  unfold oneBelow
  cases h : k.tx with
  | nil => simp
  | cons i u => simp

theorem chain_tx_drop (t : Taxon) (L : List Node) (hc : Chain t L) :
    ∀ i (h : i < L.length), (L[i]).tx = t.drop (i + 1) := by
  induction L generalizing t with
  | nil =>
    intro i h
    simp at h
  | cons x xs ih =>
    intro i h
    obtain ⟨⟨j, hj⟩, hc'⟩ := hc
    cases i with
    | zero => simp [hj]
    | succ i =>
      have := ih x.tx hc' i (by simpa using h)
      simp only [List.getElem_cons_succ, this, hj, List.drop_succ_cons]

theorem chain_length_le (t : Taxon) (L : List Node) (hc : Chain t L) : L.length ≤ t.length := by
  induction L generalizing t with
  | nil => simp
  | cons x xs ih =>
    obtain ⟨⟨j, hj⟩, hc'⟩ := hc
    have := ih x.tx hc'
    simp [hj]
    omega

theorem suffix_length_lt {a t : Taxon} (h : a <:+ t) (hne : a ≠ t) : a.length < t.length :=
  Nat.lt_of_le_of_ne h.length_le fun he => hne (h.eq_of_length he)

theorem chain_tx_length (t : Taxon) (L : List Node) (hc : Chain t L) (i : Nat) (h : i < L.length) :
    (L[i]).tx.length + (i + 1) = t.length := by
  have h1 := congrArg List.length (chain_tx_drop t L hc i h)
  have h2 := chain_length_le t L hc
  rw [List.length_drop] at h1
  omega

theorem chain_split {pre : List Node} {y : Node} {post : List Node} : {t : Taxon} → Chain t (pre ++ y :: post) →
    (∀ z ∈ pre, y.tx.length < z.tx.length) ∧ y.tx.length + pre.length + 1 = t.length ∧ Chain y.tx post := by
  induction pre with
  | nil =>
    rintro t ⟨⟨i, hi⟩, hc⟩
    refine ⟨fun _ hz => absurd hz List.not_mem_nil, ?_, hc⟩
    rw [hi, List.length_cons]
    rfl
  | cons p pre ih =>
    rintro t ⟨⟨i, hi⟩, hc⟩
    obtain ⟨h1, h2, h3⟩ := ih hc
    refine ⟨fun z hz => ?_, ?_, h3⟩
    · rcases List.mem_cons.1 hz with rfl | hz
      · omega
      · exact h1 z hz
    · rw [hi, List.length_cons, List.length_cons]
      omega

theorem chain_none_iff {t : Taxon} {L : List Node} (hc : Chain t L) {a : Taxon} (ha : a <:+ t) (hne : a ≠ t) :
    (∀ y ∈ L, y.tx ≠ a) ↔ L.length + a.length < t.length := by
  have halt := suffix_length_lt ha hne
  constructor
  · intro h
    refine Nat.lt_of_not_le fun hge => ?_
    have hi : t.length - a.length - 1 < L.length := by omega
    refine h _ (List.getElem_mem hi) ((chain_tx_drop t L hc _ hi).trans ?_)
    have e : t.length - a.length - 1 + 1 = t.length - a.length := by omega
    rw [e]
    exact (List.suffix_iff_eq_drop.1 ha).symm
  · intro h y hy hya
    obtain ⟨i, hi, rfl⟩ := List.getElem_of_mem hy
    have := chain_tx_length t L hc i hi
    rw [hya] at this
    omega

/-- on a chain at most one ancestor lives at a given taxon -/
theorem chain_unique_at (t : Taxon) (L : List Node) (hc : Chain t L) (a : Taxon) (x y : Node)
    (hx : x ∈ L) (hy : y ∈ L) (hxa : x.tx = a) (hya : y.tx = a) : x = y := by
  obtain ⟨pre, post, rfl⟩ := List.append_of_mem hx
  obtain ⟨h1, _, h3⟩ := chain_split hc
  -- `y` is neither before `x` (deeper) nor after it (higher up)
  rcases List.mem_append.1 hy with hy | hy
  · have := h1 y hy
    rw [hxa, hya] at this
    exact absurd this (Nat.lt_irrefl _)
  · rcases List.mem_cons.1 hy with rfl | hy
    · rfl
    · obtain ⟨p2, q2, rfl⟩ := List.append_of_mem hy
      have := (chain_split h3).2.1
      rw [hxa, hya] at this
      omega

end Pyham
