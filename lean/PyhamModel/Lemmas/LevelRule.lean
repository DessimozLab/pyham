/-
  `ruleLevel` answers `t` when all taxa are one child of `t`, or lie below `t` with two of them below different
  children, provided every duplication level it lifts over lies below `t` (`ruleLevel_of` after `baseLevel_const` /
  `baseLevel_spread`); `ruleDup` answers `t` in the first case (`ruleDup_const`).
-/
import PyhamModel.Model.History
import PyhamModel.Lemmas.ParserState
namespace Pyham

theorem mrca_spread (t : Taxon) (L : List Taxon) (hL : ∀ x ∈ L, t <:+ x) (x1 x2 : Taxon) (b1 b2 : Nat)
    (h1 : x1 ∈ L) (h2 : x2 ∈ L) (s1 : (b1 :: t) <:+ x1) (s2 : (b2 :: t) <:+ x2) (hb : b1 ≠ b2) :
    mrca L = t := by
  have hne : L ≠ [] := List.ne_nil_of_mem h1
  have ht : t <:+ mrca L := mrca_greatest t L hne hL
  apply Classical.byContradiction
  intro hne'
  have hlt : t.length < (mrca L).length := suffix_ne_length_lt ht (fun e => hne' e.symm)
  have e1 : (b1 :: t) <:+ mrca L :=
    List.suffix_of_suffix_length_le s1 (mrca_suffix_mem L x1 h1) (by simp; omega)
  have e2 : (b2 :: t) <:+ mrca L :=
    List.suffix_of_suffix_length_le s2 (mrca_suffix_mem L x2 h2) (by simp; omega)
  have e3 : (b1 :: t) <:+ (b2 :: t) := List.suffix_of_suffix_length_le e1 e2 (by simp)
  have := e3.eq_of_length (by simp)
  simp only [List.cons.injEq, and_true] at this
  exact hb this

/-- the first step of `ruleLevel`: the MRCA rule, before the lift to a contained duplication -/
def baseLevel (taxa : List Taxon) : Option Taxon :=
  match dedup taxa with
  | [] => none
  | [t] => t.up
  | ts => some (mrca ts)

theorem ruleLevel_eq (taxa dl : List Taxon) :
    ruleLevel taxa dl = (baseLevel taxa).map fun b =>
      dl.foldl (fun lv m => if isProperAncestor m lv then m else lv) b := rfl

theorem foldl_lift_const (t : Taxon) (dl : List Taxon) (h : ∀ m ∈ dl, t <:+ m) :
    dl.foldl (fun lv m => if isProperAncestor m lv then m else lv) t = t := by
  induction dl with
  | nil => rfl
  | cons m dl ih =>
    have hm := h m List.mem_cons_self
    have : isProperAncestor m t = false := by
      rw [Bool.eq_false_iff]
      intro hp
      obtain ⟨a, b⟩ := (isProperAncestor_iff m t).1 hp
      exact b (suffix_antisymm a hm)
    simp only [List.foldl_cons, this, Bool.false_eq_true, if_false]
    exact ih fun x hx => h x (List.mem_cons_of_mem _ hx)

theorem ruleLevel_of (t : Taxon) (taxa dl : List Taxon) (hb : baseLevel taxa = some t)
    (hd : ∀ m ∈ dl, t <:+ m) : ruleLevel taxa dl = some t := by
  rw [ruleLevel_eq, hb, Option.map_some, foldl_lift_const t dl hd]

theorem baseLevel_const (i : Nat) (t : Taxon) (taxa : List Taxon) (hne : taxa ≠ [])
    (h : ∀ x ∈ taxa, x = i :: t) : baseLevel taxa = some t := by
  rw [baseLevel, dedup_const (i :: t) taxa hne h]
  rfl

theorem baseLevel_spread (t : Taxon) (taxa : List Taxon) (hL : ∀ x ∈ taxa, t <:+ x) (x1 x2 : Taxon) (b1 b2 : Nat)
    (h1 : x1 ∈ taxa) (h2 : x2 ∈ taxa) (s1 : (b1 :: t) <:+ x1) (s2 : (b2 :: t) <:+ x2) (hb : b1 ≠ b2) :
    baseLevel taxa = some t := by
  have hne : x1 ≠ x2 := by
    rintro rfl
    have e3 : (b1 :: t) <:+ (b2 :: t) := List.suffix_of_suffix_length_le s1 s2 (by simp)
    have := e3.eq_of_length (by simp)
    simp only [List.cons.injEq, and_true] at this
    exact hb this
  have m1 := (mem_dedup x1 taxa).2 h1
  have m2 := (mem_dedup x2 taxa).2 h2
  have hm := mrca_spread t (dedup taxa) (fun x hx => hL x ((mem_dedup x taxa).1 hx)) x1 x2 b1 b2 m1 m2 s1 s2 hb
  unfold baseLevel
  match hd : dedup taxa with
  | [] => rw [hd] at m1; simp at m1
  | [x] =>
    rw [hd] at m1 m2
    simp only [List.mem_singleton] at m1 m2
    exact absurd (m1.trans m2.symm) hne
  | a :: b :: r =>
    rw [hd] at hm
    simp only [hm]

theorem ruleDup_const (i : Nat) (t : Taxon) (taxa : List Taxon) (hne : taxa ≠ [])
    (h : ∀ x ∈ taxa, x = i :: t) : ruleDup taxa = some t := by
  rw [ruleDup, dedup_const (i :: t) taxa hne h]
  rfl

end Pyham
