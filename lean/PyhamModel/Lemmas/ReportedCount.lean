/-
  How many genes of `d` are reported under an ancestor of `a` -- as DUPLICATED (a duplication was met on the way up) or as
  RETAINED -- over an arbitrary branch `a → d`: on the hierarchy a top-down walk that carries "am I below a member of `a`, and
  has a duplication been passed since"; on the histories the same walk over the spelled history.
-/
import PyhamModel.Lemmas.LostCount
namespace Pyham

/-! ### the top-down walk on the hierarchy

  The state handed to a node is `none` while no member of `a` lies above it, `some f` below one, where `f` says whether the
  node itself or anything strictly between it and that member arose by duplication.  -/

mutual
def reportedN (want : Bool) (a d : Taxon) : Option Bool → Node → Nat
  | st, .gene _ t _ _ => if t == d && st == some want then 1 else 0
  | st, .hog _ t _ ks _ =>
    (if t == d && st == some want then 1 else 0) + reportedNL want a d (if t == a then some false else st) ks
def reportedNL (want : Bool) (a d : Taxon) (st : Option Bool) : List Node → Nat
  | [] => 0
  | k :: ks => reportedN want a d (st.map fun f => f || k.dup.isSome) k + reportedNL want a d st ks
end

/-- the state of a located member, read off its chain of ancestors by the upward search -/
def stateOf (a : Taxon) (dupFlag : Bool) (anc : List Node) : Option Bool :=
  match searchUp a dupFlag anc with
  | (some _, f) => some f
  | (none, _) => none

theorem searchUp_or (a : Taxon) : (L : List Node) → (f g : Bool) →
    searchUp a (f || g) L = ((searchUp a f L).1, (searchUp a f L).2 || g)
  | [], f, g => by simp [searchUp]
  | x :: xs, f, g => by
    simp only [searchUp]
    by_cases hx : (x.tx == a) = true
    · simp [hx]
    · have hx' : (x.tx == a) = false := by simpa using hx
      simp only [hx', Bool.false_eq_true, if_false]
      rw [Bool.or_right_comm]
      exact searchUp_or a xs (f || x.dup.isSome) g

/-- the state of a child, from the state of its parent -/
theorem stateOf_kid (a : Taxon) (n : Node) (anc : List Node) (k : Node) :
    stateOf a k.dup.isSome (n :: anc) =
      (if n.tx == a then some false else stateOf a n.dup.isSome anc).map fun f => f || k.dup.isSome := by
  unfold stateOf
  simp only [searchUp]
  by_cases hx : (n.tx == a) = true
  · simp [hx]
  · have hx' : (n.tx == a) = false := by simpa using hx
    simp only [hx', Bool.false_eq_true, if_false]
    rw [Bool.or_comm, searchUp_or]
    cases hs : searchUp a n.dup.isSome anc with
    | mk o f => cases o <;> simp

def reportedHere (want : Bool) (a d : Taxon) (l : Loc) : Bool :=
  l.node.tx == d && (stateOf a l.node.dup.isSome l.anc == some want)

mutual
/-- the located members of a subtree that are reported with the wanted flag, counted top-down -/
theorem reported_locs (want : Bool) (a d : Taxon) : (n : Node) → (anc : List Node) →
    ((locs anc n).filter (reportedHere want a d)).length = reportedN want a d (stateOf a n.dup.isSome anc) n
  | .gene i t dp lo, anc => by
    rw [locs, length_filter_cons]
    rfl
  | .hog info t dp ks ds, anc => by
    rw [locs, length_filter_cons, reportedN, reported_locsL want a d ks (.hog info t dp ks ds) anc]
    rfl
theorem reported_locsL (want : Bool) (a d : Taxon) : (ks : List Node) → (p : Node) → (anc : List Node) →
    ((locsL (p :: anc) ks).filter (reportedHere want a d)).length =
      reportedNL want a d (if p.tx == a then some false else stateOf a p.dup.isSome anc) ks
  | [], p, anc => by simp [locsL, reportedNL]
  | k :: ks, p, anc => by
    simp only [locsL, List.filter_append, List.length_append, reportedNL]
    rw [reported_locs want a d k (p :: anc), reported_locsL want a d ks p anc, stateOf_kid]
end

/-! ### from the comparison to the walk -/

theorem stateOf_search (a : Taxon) (l : Loc) (want : Bool) :
    (stateOf a l.node.dup.isSome l.anc == some want) =
      ((search a l).1.isSome && ((search a l).2 == want)) := by
  unfold stateOf search
  cases hs : searchUp a l.node.dup.isSome l.anc with
  | mk o f => cases o <;> cases f <;> cases want <;> rfl

theorem reported_walk (H : Ham) (a d : Taxon) (want : Bool) (Q : Loc → Bool)
    (hQ : ∀ l, Q l = ((search a l).1.isSome && ((search a l).2 == want))) :
    ((H.nodesAt d).filter Q).length = famSum H (fun top => reportedN want a d none top) := by
  refine (c10_add H d Q _ 0 (fun o top _ => ?_) ?_).trans (Nat.add_zero _)
  · refine (reported_locs want a d top []).symm.trans ?_
    rw [List.filter_filter]
    refine congrArg List.length (List.filter_congr fun l _ => ?_)
    unfold reportedHere
    rw [stateOf_search, hQ]
    exact Bool.and_comm ..
  · refine List.length_eq_zero_iff.mpr (List.filter_eq_nil_iff.mpr fun g _ => ?_)
    rw [hQ]
    simp [search, searchUp]

/-- **how many genes are reported as duplicated / as retained over any branch, on the hierarchy**: the walk `reportedN` started
    without state at the top of each family -/
theorem C06_reported_count (H : Ham) (hw : H.WFc) (a d : Taxon) :
    ((hogsMap H a d).dupl.map (·.2.length)).sum = famSum H (fun top => reportedN true a d none top) ∧
    (hogsMap H a d).retained.length = famSum H (fun top => reportedN false a d none top) := by
  constructor
  · rw [hogsMap_dupl, duplicated_count]
    unfold upOf
    rw [List.countP_map, List.countP_eq_length_filter]
    refine reported_walk H a d true _ (fun l => ?_)
    show ((search a l).1.isSome && (search a l).2) = _
    cases (search a l).2 <;> rfl
  · rw [hogsMap_retained, retained_count _ (upOf_noClash hw a d)]
    unfold upOf
    rw [List.countP_map, List.countP_eq_length_filter]
    refine reported_walk H a d false _ (fun l => ?_)
    show ((search a l).1.isSome && !(search a l).2) = _
    cases (search a l).2 <;> rfl

/-! ### ... and on the histories -/

theorem map_or_false : (st : Option Bool) → (st.map fun f => f || false) = st
  | none => rfl
  | some true => rfl
  | some false => rfl

theorem map_or_true : (st : Option Bool) → (st.map fun f => f || true) = st.map fun _ => true
  | none => rfl
  | some true => rfl
  | some false => rfl

def reportedFold (want : Bool) (a d : Taxon) : HFold (Option Bool) where
  F q st l := reportedAt want a d q st l
  FS q st subs := reportedAtSubs want a d q st subs
  FC q st cs := reportedAtCopies want a d q st cs
  here q st _ := if q == d && st == some want then 1 else 0
  down q st := if q == a then some false else st
  sub st b := st.map fun f => f || b
  ev _ _ _ := 0
  grp _ _ _ _ _ _ := rfl
  nil _ _ := rfl
  one _ st _ _ _ := by
    rw [map_or_false]
    rfl
  dup _ st _ _ _ _ := by
    rw [map_or_true, Nat.zero_add]
    rfl
  ann _ _ _ _ := rfl
  cnil _ _ := rfl
  ccons _ _ _ _ := rfl

def reportedCount (want : Bool) (a d : Taxon) : NFold (reportedFold want a d) where
  N st n := reportedN want a d st n
  NL st ks := reportedNL want a d st ks
  ok _ _ := True
  nil _ := rfl
  cons _ _ _ := rfl
  gene _ _ _ _ _ := rfl
  hog _ _ _ _ _ _ _ _ _ _ _ _ := rfl
  ok_sub _ _ _ _ _ _ _ _ _ := trivial
  ev _ _ _ := rfl

theorem realises_rep (want : Bool) (a d q : Taxon) (st : Option Bool) : (l : SL) → (n : Node) → Realises q l n →
    reportedN want a d st n = reportedAt want a d q st l :=
  fun l n h => (reportedCount want a d).agree q st l n h trivial

theorem realisesSubs_rep (want : Bool) (a d q : Taxon) (st : Option Bool) : (subs : List Sub) → (plain : List Node) →
    (evs : List (DupRec × List Node)) → RealisesSubs q subs plain evs →
    reportedNL want a d st plain + reportedNL want a d st (evs.flatMap (·.2)) = reportedAtSubs want a d q st subs :=
  fun subs plain evs h => (reportedCount want a d).agreeSubs q st subs plain evs h (fun _ _ _ => trivial)

theorem realisesCopies_rep (want : Bool) (a d q : Taxon) (st : Option Bool) : (cs : List SL) → (ks : List Node) →
    (did : Nat) → (∀ k ∈ ks, k.dup = some did) → RealisesCopies q cs ks →
    reportedNL want a d st ks = reportedAtCopies want a d q (st.map fun _ => true) cs :=
  fun cs ks did hkd h => (reportedCount want a d).agreeCopies q st _ cs ks h
    (fun k hk => by
      rw [hkd k hk]
      exact map_or_true st)
    (fun _ _ => trivial)

namespace Loaded

theorem reported {D : Dataset} {H : Ham} (L : Loaded D H) (a d : Taxon) :
    ((hogsMap H a d).dupl.map (·.2.length)).sum = (D.fams.map fun f => reportedAt true a d f.1 none f.2).sum ∧
    (hogsMap H a d).retained.length = (D.fams.map fun f => reportedAt false a d f.1 none f.2).sum := by
  obtain ⟨h1, h2⟩ := C06_reported_count H L.wfc a d
  rw [h1, h2]
  exact ⟨L.famSum _ (fun q l => reportedAt true a d q none l) (fun _ _ _ _ hr => realises_rep true a d _ none _ _ hr),
    L.famSum _ (fun q l => reportedAt false a d q none l) (fun _ _ _ _ hr => realises_rep false a d _ none _ _ hr)⟩

end Loaded

/-- **END TO END, duplicated and retained over any branch**: for every consistent dataset and any two taxa `a`, `d`, the
    comparison `a → d` reports as many duplicated copies (resp. retained genes) as lineages of the histories cross `d` below a
    lineage at `a` with (resp. without) a duplication event on the way -/
theorem C06_reported_count_is_the_history (D : Dataset) (hc : D.Consistent) :
    ∃ H, load D.T D.nm D.file = .ok H ∧ ∀ a d,
      ((hogsMap H a d).dupl.map (·.2.length)).sum = (D.fams.map fun f => reportedAt true a d f.1 none f.2).sum ∧
      (hogsMap H a d).retained.length = (D.fams.map fun f => reportedAt false a d f.1 none f.2).sum := by
  obtain ⟨H, L⟩ := Loaded.of_consistent D hc
  exact ⟨H, L.eq, L.reported⟩

theorem internal_mem_allTaxa (T : STree) (a : Taxon) (h : T.isInternalAt a = true) : a ∈ T.allTaxa := by
  rw [mem_allTaxa_iff]
  unfold STree.isInternalAt at h
  cases hs : T.sub a with
  | none =>
    rw [hs] at h
    cases h
  | some x => rfl

/-- **the number of duplication events of any comparison between ancestral genomes, END TO END**: events + lineages crossing
    `a` = duplicated copies + lost + retained, every term on the right and the lineage count being functions of the histories
    (the events are the sum over the duplicated ancestors of (copies − 1); there are as many duplicated ancestors as lineages at
    `a` that are neither lost nor retained) -/
theorem C06_number_duplications_is_the_history (D : Dataset) (hc : D.Consistent) :
    ∃ H, load D.T D.nm D.file = .ok H ∧ ∀ a d, a ≠ d → D.T.isInternalAt a = true → D.T.isInternalAt d = true →
      (hogsMap H a d).ndup + (D.fams.map fun f => lineagesAt a f.1 f.2).sum =
        (D.fams.map fun f => reportedAt true a d f.1 none f.2).sum + (D.fams.map fun f => extinctAt a d f.1 f.2).sum +
          (D.fams.map fun f => reportedAt false a d f.1 none f.2).sum := by
  obtain ⟨H, L⟩ := Loaded.of_consistent D hc
  refine ⟨H, L.eq, ?_⟩
  intro a d hne hia hid
  obtain ⟨hd, hr⟩ := L.reported a d
  have hlo := L.lost a d hne hia hid
  have hsize := C05_ancestor_size H L.wfc a d
  have hnd := ndup_add_length H a d
  -- the genome at a: registered size = located members
  have hgs : H.genomeSize a = (H.nodesAt a).length := by
    have := L.sizes
    simp only [Ham.sizesExact, List.all_eq_true, beq_iff_eq] at this
    exact this a (L.tree ▸ internal_mem_allTaxa D.T a hia)
  rw [← L.genomeSize a hia, hgs, hsize, ← hd, ← hlo, ← hr]
  omega

end Pyham
