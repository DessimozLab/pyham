/-
  C16: navigation inside a family is self-consistent: the lists a family offers (`hogs`, `leaves`, `nodes`)
  describe one subtree, `clusterBySpecies` partitions the descendant genes, `getAtLevel` answers from the family.
-/
import PyhamModel.Model.Nav
import PyhamModel.Lemmas.Locs
namespace Pyham

theorem hogs_eq_nodes_filter : (n : Node) → n.hogs = n.nodes.filter (fun x => !x.isGene)
  | .gene .. => rfl
  | .hog info t d ks ds => by
    rw [Node.hogs, Node.nodes, List.filter_cons_of_pos rfl, hogsL_eq ks]
where
  hogsL_eq : (ks : List Node) → Node.hogsL ks = (Node.nodesL ks).filter (fun x => !x.isGene)
    | [] => rfl
    | k :: ks => by
      rw [Node.hogsL, Node.nodesL, List.filter_append, hogs_eq_nodes_filter k, hogsL_eq ks]

theorem leaves_eq_nodes : (n : Node) →
    n.leaves = n.nodes.filterMap (fun x => match x with | .gene i _ _ _ => some i | _ => none)
  | .gene .. => rfl
  | .hog info t d ks ds => by
    rw [Node.leaves, Node.nodes, List.filterMap_cons_none rfl, leavesL_eq ks]
where
  leavesL_eq : (ks : List Node) → Node.leavesL ks =
      (Node.nodesL ks).filterMap (fun x => match x with | .gene i _ _ _ => some i | _ => none)
    | [] => rfl
    | k :: ks => by
      rw [Node.leavesL, Node.nodesL, List.filterMap_append, leaves_eq_nodes k, leavesL_eq ks]

theorem geneTaxa_map_fst (n : Node) : (geneTaxa n).map (·.1) = n.leaves := by
  rw [leaves_eq_nodes, geneTaxa, List.map_filterMap]
  congr 1
  funext x
  cases x <;> rfl

theorem mem_geneTaxa (n : Node) (g : String) (t : Taxon) :
    (g, t) ∈ geneTaxa n ↔ ∃ d l, Node.gene g t d l ∈ n.nodes := by
  simp only [geneTaxa, List.mem_filterMap]
  constructor
  · rintro ⟨x, hx, he⟩
    cases x with
    | gene i t' d l =>
      simp only [Option.some.injEq, Prod.mk.injEq] at he
      obtain ⟨rfl, rfl⟩ := he
      exact ⟨d, l, hx⟩
    | hog => simp at he
  · rintro ⟨d, l, hx⟩
    exact ⟨_, hx, rfl⟩

theorem leaves_nodup_of_keys (n : Node) (h : (n.nodes.map Node.key).Nodup) : n.leaves.Nodup := by
  rw [leaves_eq_nodes]
  refine List.Pairwise.filterMap _ ?_ (List.pairwise_map.1 h)
  intro a a' hne i hi i' hi' e
  cases a with
  | hog => simp at hi
  | gene j t d l =>
    cases a' with
    | hog => simp at hi'
    | gene j' t' d' l' =>
      simp only [Option.some.injEq] at hi hi'
      apply hne
      rw [Node.key, Node.key, hi, hi', e]

/-! ### clusterPut -/

/-- `clusterPut` on one entry, key `t` present -/
def cupd (t : Taxon) (g : String) (e : Taxon × List String) : Taxon × List String :=
  if e.1 == t then (t, e.2 ++ [g]) else e

theorem clusterPut_eq (d : List (Taxon × List String)) (t : Taxon) (g : String) :
    clusterPut d t g = if d.any (·.1 == t) then d.map (cupd t g) else d ++ [(t, [g])] := rfl

theorem cupd_of_eq (t : Taxon) (g : String) {e : Taxon × List String} (h : e.1 = t) :
    cupd t g e = (t, e.2 ++ [g]) :=
  if_pos (beq_iff_eq.mpr h)

theorem cupd_of_ne (t : Taxon) (g : String) {e : Taxon × List String} (h : e.1 ≠ t) : cupd t g e = e :=
  if_neg fun hb => h (beq_iff_eq.mp hb)

theorem cupd_fst (t : Taxon) (g : String) (e : Taxon × List String) : (cupd t g e).1 = e.1 := by
  by_cases h : e.1 = t
  · rw [cupd_of_eq t g h, h]
  · rw [cupd_of_ne t g h]

theorem nav_any_key_iff (d : List (Taxon × List String)) (t : Taxon) :
    d.any (·.1 == t) = true ↔ t ∈ d.map (·.1) := by
  simp only [List.any_eq_true, List.mem_map, beq_iff_eq]

theorem map_cupd_of_not_mem (d : List (Taxon × List String)) (t : Taxon) (g : String)
    (h : t ∉ d.map (·.1)) : d.map (cupd t g) = d := by
  refine (List.map_congr_left fun e he => ?_).trans (List.map_id d)
  exact cupd_of_ne t g fun hh => h (List.mem_map.mpr ⟨e, he, hh⟩)

theorem map_cupd_flat (d : List (Taxon × List String)) (t : Taxon) (g : String)
    (hn : (d.map (·.1)).Nodup) (h : t ∈ d.map (·.1)) :
    ((d.map (cupd t g)).flatMap (·.2)).Perm (d.flatMap (·.2) ++ [g]) := by
  induction d with
  | nil => cases h
  | cons e d ih =>
    rw [List.map_cons, List.nodup_cons] at hn
    rw [List.map_cons, List.flatMap_cons, List.flatMap_cons, List.append_assoc]
    by_cases he : e.1 = t
    · rw [map_cupd_of_not_mem d t g (he ▸ hn.1), cupd_of_eq t g he, List.append_assoc]
      exact List.Perm.append_left _ List.perm_append_comm
    · rw [cupd_of_ne t g he]
      rw [List.map_cons, List.mem_cons] at h
      exact List.Perm.append_left _ (ih hn.2 (h.resolve_left fun hh => he hh.symm))

theorem clusterPut_keys_nodup (d : List (Taxon × List String)) (t : Taxon) (g : String)
    (hn : (d.map (·.1)).Nodup) : ((clusterPut d t g).map (·.1)).Nodup := by
  rw [clusterPut_eq]
  split
  · rw [List.map_map]
    exact (List.map_congr_left fun e _ => cupd_fst t g e) ▸ hn
  · rename_i h
    rw [nav_any_key_iff] at h
    rw [List.map_append, List.nodup_append]
    refine ⟨hn, List.pairwise_singleton _ _, ?_⟩
    intro a ha b hb hab
    cases List.mem_singleton.mp hb
    have hat : a = t := hab
    exact h (hat ▸ ha)

theorem clusterPut_flat (d : List (Taxon × List String)) (t : Taxon) (g : String)
    (hn : (d.map (·.1)).Nodup) :
    ((clusterPut d t g).flatMap (·.2)).Perm (d.flatMap (·.2) ++ [g]) := by
  rw [clusterPut_eq]
  split
  · rename_i h
    exact map_cupd_flat d t g hn ((nav_any_key_iff d t).mp h)
  · rw [List.flatMap_append, List.flatMap_singleton]

theorem clusterPut_mem (d : List (Taxon × List String)) (t : Taxon) (g : String)
    (t' : Taxon) (gs : List String) (h : (t', gs) ∈ clusterPut d t g) :
    ∀ x ∈ gs, (x = g ∧ t' = t) ∨ ∃ gs', (t', gs') ∈ d ∧ x ∈ gs' := by
  intro x hx
  rw [clusterPut_eq] at h
  split at h
  · obtain ⟨e, he, hee⟩ := List.mem_map.mp h
    by_cases hk : e.1 = t
    · rw [cupd_of_eq t g hk] at hee
      cases hee
      rcases List.mem_append.mp hx with hx | hx
      · exact Or.inr ⟨e.2, hk ▸ he, hx⟩
      · exact Or.inl ⟨List.mem_singleton.mp hx, rfl⟩
    · rw [cupd_of_ne t g hk] at hee
      exact Or.inr ⟨gs, hee ▸ he, hx⟩
  · rcases List.mem_append.mp h with h | h
    · exact Or.inr ⟨gs, h, hx⟩
    · cases List.mem_singleton.mp h
      exact Or.inl ⟨List.mem_singleton.mp hx, rfl⟩

theorem clusterPut_key (d : List (Taxon × List String)) (t : Taxon) (g : String) :
    ∀ e ∈ clusterPut d t g, e.1 ∈ d.map (·.1) ∨ e.1 = t := by
  intro e he
  rw [clusterPut_eq] at he
  split at he
  · obtain ⟨e', he', rfl⟩ := List.mem_map.1 he
    rw [cupd_fst]
    exact Or.inl (List.mem_map.2 ⟨e', he', rfl⟩)
  · rcases List.mem_append.1 he with he | he
    · exact Or.inl (List.mem_map.2 ⟨e, he, rfl⟩)
    · simp only [List.mem_singleton] at he
      rw [he]
      exact Or.inr rfl

abbrev cstep (d : List (Taxon × List String)) (e : String × Taxon) := clusterPut d e.2 e.1

/-- invariant of the fold of `clusterBySpecies`: keys, stored genes up to order, each gene under its own key -/
theorem cfold_inv (es : List (String × Taxon)) : ∀ (d : List (Taxon × List String)),
    (d.map (·.1)).Nodup →
    ((es.foldl cstep d).map (·.1)).Nodup ∧
    ((es.foldl cstep d).flatMap (·.2)).Perm (d.flatMap (·.2) ++ es.map (·.1)) ∧
    ∀ t gs, (t, gs) ∈ es.foldl cstep d → ∀ x ∈ gs,
      (x, t) ∈ es ∨ ∃ gs', (t, gs') ∈ d ∧ x ∈ gs' := by
  induction es with
  | nil =>
    intro d hn
    refine ⟨hn, by simp, ?_⟩
    intro t gs h x hx
    exact Or.inr ⟨gs, h, hx⟩
  | cons e es ih =>
    intro d hn
    simp only [List.foldl_cons]
    have hn' := clusterPut_keys_nodup d e.2 e.1 hn
    obtain ⟨h1, h2, h3⟩ := ih (cstep d e) hn'
    refine ⟨h1, ?_, ?_⟩
    · refine h2.trans ?_
      simp only [List.map_cons]
      have := clusterPut_flat d e.2 e.1 hn
      refine (List.Perm.append_right _ this).trans ?_
      simp
    · intro t gs h x hx
      rcases h3 t gs h x hx with h | ⟨gs', hg, hx'⟩
      · exact Or.inl (List.mem_cons_of_mem _ h)
      · rcases clusterPut_mem d e.2 e.1 t gs' hg x hx' with ⟨a, b⟩ | h
        · left; subst a b; exact List.mem_cons_self
        · exact Or.inr h

theorem cfold_keys (es : List (String × Taxon)) : ∀ (d : List (Taxon × List String)),
    ∀ e ∈ es.foldl cstep d, e.1 ∈ d.map (·.1) ∨ ∃ g, (g, e.1) ∈ es := by
  induction es with
  | nil =>
    intro d e he
    exact Or.inl (List.mem_map.2 ⟨e, he, rfl⟩)
  | cons x es ih =>
    intro d e he
    simp only [List.foldl_cons] at he
    rcases ih (cstep d x) e he with h | ⟨g, hg⟩
    · obtain ⟨e', he', hk⟩ := List.mem_map.1 h
      rcases clusterPut_key d x.2 x.1 e' he' with h' | h'
      · exact Or.inl (hk ▸ h')
      · refine Or.inr ⟨x.1, ?_⟩
        rw [← hk, h']
        exact List.mem_cons_self
    · exact Or.inr ⟨g, List.mem_cons_of_mem _ hg⟩

theorem clusterBySpecies_eq (n : Node) : clusterBySpecies n = (geneTaxa n).foldl cstep [] := rfl

/-- **C16**: the per-species clustering is a partition of the descendant genes: flattened it is a permutation
    of the gene list -/
theorem clusterBySpecies_perm (n : Node) :
    ((clusterBySpecies n).flatMap (·.2)).Perm n.leaves := by
  have := (cfold_inv (geneTaxa n) [] (by simp)).2.1
  rw [clusterBySpecies_eq]
  simpa [geneTaxa_map_fst] using this

/-- **C16**: its keys are pairwise distinct -/
theorem clusterBySpecies_keys_nodup (n : Node) : ((clusterBySpecies n).map (·.1)).Nodup :=
  (cfold_inv (geneTaxa n) [] (by simp)).1

/-- **C16**: each gene is listed under the species it lives in -/
theorem clusterBySpecies_sound (n : Node) (t : Taxon) (gs : List String) (g : String)
    (h : (t, gs) ∈ clusterBySpecies n) (hg : g ∈ gs) : (g, t) ∈ geneTaxa n := by
  rcases (cfold_inv (geneTaxa n) [] (by simp)).2.2 t gs h g hg with h | ⟨gs', h, _⟩
  · exact h
  · simp at h

theorem clusterBySpecies_key (n : Node) (e : Taxon × List String) (he : e ∈ clusterBySpecies n) :
    ∃ g, (g, e.1) ∈ geneTaxa n := by
  rw [clusterBySpecies_eq] at he
  rcases cfold_keys (geneTaxa n) [] e he with h | h
  · simp at h
  · exact h

/-- the level list is the descendant-HOG list seen through `tx` -/
theorem descLevels_eq (n : Node) : descLevels n = n.hogs.map Node.tx := rfl

theorem topOf_locs (top : Node) (l : Loc) (h : l ∈ locs [] top) : topOf l = top := by
  unfold topOf
  rcases locs_anc_cases top [] l h with rfl | ⟨pre, hp⟩
  · rfl
  · rw [← hp, List.getLast?_append]
    rfl

/-- asking any member for a genome returns exactly the family's members living in that genome,
    with KeyError when there are none or the answer would contain the member itself -/
theorem getAtLevel_ok (top : Node) (l : Loc) (hl : l ∈ locs [] top) (g : Taxon) (r : List Node)
    (h : getAtLevel l g = .ok r) :
    r = top.nodes.filter (fun n => n.tx == g) ∧ r ≠ [] ∧ ∀ n ∈ r, n.key ≠ l.node.key := by
  simp only [getAtLevel, topOf_locs top l hl] at h
  by_cases h1 : (top.nodes.filter fun n => n.tx == g).isEmpty = true
  · rw [if_pos h1] at h
    cases h
  · rw [if_neg h1] at h
    by_cases h2 : (top.nodes.filter fun n => n.tx == g).any (·.key == l.node.key) = true
    · rw [if_pos h2] at h
      cases h
    · rw [if_neg h2] at h
      cases h
      refine ⟨rfl, fun h0 => h1 (List.isEmpty_iff.mpr h0), ?_⟩
      intro n hn hk
      exact h2 (List.any_eq_true.mpr ⟨n, hn, beq_iff_eq.mpr hk⟩)

theorem getAtLevel_err (top : Node) (l : Loc) (hl : l ∈ locs [] top) (g : Taxon) (e : Err)
    (h : getAtLevel l g = .error e) :
    e = .key ∧ (top.nodes.filter (fun n => n.tx == g) = [] ∨
                ∃ n ∈ top.nodes.filter (fun n => n.tx == g), n.key = l.node.key) := by
  simp only [getAtLevel, topOf_locs top l hl] at h
  by_cases h1 : (top.nodes.filter fun n => n.tx == g).isEmpty = true
  · rw [if_pos h1] at h
    cases h
    exact ⟨rfl, Or.inl (List.isEmpty_iff.mp h1)⟩
  · rw [if_neg h1] at h
    by_cases h2 : (top.nodes.filter fun n => n.tx == g).any (·.key == l.node.key) = true
    · rw [if_pos h2] at h
      cases h
      obtain ⟨n, hn, hk⟩ := List.any_eq_true.mp h2
      exact ⟨rfl, Or.inr ⟨n, hn, beq_iff_eq.mp hk⟩⟩
    · rw [if_neg h2] at h
      cases h

end Pyham
