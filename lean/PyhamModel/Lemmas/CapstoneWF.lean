/-
  The capstone for the whole decidable predicate: `Loaded.wfc` (Capstone.lean) gives alignment, discipline and
  distinct identities; here the analysis loaded from a consistent dataset satisfies all of `Ham.wf` (events and
  flags: `realises_eventsOk`) and has exact genome registries (`regExact_of`).
-/
import PyhamModel.Lemmas.Capstone
namespace Pyham

/-- C02, events and flags: in a hierarchy that realises a well-formed history and whose nodes have
    pairwise distinct identities every clause of `eventsOk` holds -/
theorem realises_eventsOk (T : STree) (q : Taxon) (l : SL) (n : Node) (h : Realises q l n) :
    wfh T q l = true → (n.nodes.map Node.key).Nodup → n.eventsOk T = true := by
  refine realises_ind (M := fun q l n => wfh T q l = true → (n.nodes.map Node.key).Nodup →
    n.eventsOk T = true) ⟨?_, ?_⟩ q l n h
  · intro q id loft d hw _
    exact hw
  · intro q w hid label subs info d kids dups h0 hk hw hN
    obtain ⟨hint, hne⟩ := (realises_shape T q _ _ hw h0 _ (self_mem_nodes _)).2 rfl
    have hev : ∀ r ∈ dups, r.mrca = q ∧ 2 ≤ r.members.length ∧
        (∀ m ∈ r.members, ∃ k ∈ kids, k.key = m ∧ k.dup = some r.did) ∧
        (∃ i, ∀ m ∈ r.members, ∀ k ∈ kids, k.key = m → k.dup = some r.did → k.tx = i :: q) :=
      realises_events T q _ _ hw h0 _ (self_mem_hogs _ _ _ _ _)
    obtain ⟨_, _, _, _, heq, plain, evs, hp, hdp, hnd, hs⟩ := h0
    cases heq
    obtain ⟨_, _, hidxN, hws⟩ := wfh_grp hw
    have hNL : ((Node.nodesL kids).map Node.key).Nodup := (List.nodup_cons.mp hN).2
    have hK : (kids.map Node.key).Nodup := hNL.sublist ((kids_sublist_nodesL kids).map _)
    have hKP : ((plain ++ evs.flatMap (·.2)).map Node.key).Nodup := ((hp.map Node.key).nodup_iff).mp hK
    have hevs := realisesSubs_evs q subs plain evs hs
    have hdidN : (dups.map (·.did)).Nodup := by
      refine ((hdp.map (·.did)).nodup_iff).mpr ?_
      rw [List.map_map]
      exact hnd
    -- a record lists only children flagged with its number
    have hown : ∀ k ∈ kids, ∀ r ∈ dups, k.key ∈ r.members → k.dup = some r.did := by
      intro k hk1 r hr hin
      obtain ⟨k', hk1', hk2, hk3⟩ := (hev r hr).2.2.1 _ hin
      rw [← eq_of_nodup_map Node.key kids hK k' k hk1' hk1 hk2]
      exact hk3
    simp only [Node.eventsOk, Bool.and_eq_true, Bool.not_eq_true', List.all_eq_true, decide_eq_true_eq,
      eventsOkL_iff]
    refine ⟨⟨⟨⟨⟨hint, ?_⟩, ?_⟩, ?_⟩, hdidN⟩, ?_⟩
    · cases kids with
      | nil => exact absurd rfl hne
      | cons _ _ => rfl
    · intro r hr
      obtain ⟨hm, hlen, hmem, i, htx⟩ := hev r hr
      refine (dupOk_iff q kids hK r).2 ⟨hm, hlen, ?_, hmem, ?_⟩
      · obtain ⟨e, he, rfl⟩ := List.mem_map.1 (hdp.mem_iff.1 hr)
        refine ((hevs e he).2.1.nodup_iff).mpr (hKP.sublist (List.Sublist.map _ ?_))
        exact (List.sublist_flatten_of_mem (List.mem_map_of_mem he)).trans (List.sublist_append_right _ _)
      · intro k hk1 k' hk1' hkm hkm'
        rw [htx _ hkm k hk1 rfl (hown k hk1 r hr hkm), htx _ hkm' k' hk1' rfl (hown k' hk1' r hr hkm')]
    · intro k hkk
      refine (flagOk_iff kids dups hdidN k).2 ⟨?_, ?_⟩
      · intro hd r hr hin
        have := hown k hkk r hr hin
        rw [hd] at this
        cases this
      · intro d hd
        rcases List.mem_append.1 (hp.mem_iff.1 hkk) with hpl | hfl
        · rw [realisesSubs_plain q subs plain evs hs k hpl] at hd
          cases hd
        · -- `k` is a copy of an event `e`: the children at its taxon are the copies of `e`
          obtain ⟨e, he, hke⟩ := List.mem_flatMap.1 hfl
          obtain ⟨_, hperm, hdupe, _⟩ := hevs e he
          obtain rfl : e.1.did = d := Option.some.inj ((hdupe k hke).symm.trans hd)
          refine ⟨⟨e.1, hdp.mem_iff.2 (List.mem_map.2 ⟨e, he, rfl⟩), rfl,
            hperm.mem_iff.2 (List.mem_map.2 ⟨k, hke, rfl⟩)⟩, ?_, ?_⟩
          · intro r hr hin
            exact (Option.some.inj ((hown k hkk r hr hin).symm.trans hd))
          · intro k' hk' htx
            apply hdupe k'
            rw [← (realisesSubs_at q subs plain evs hs hidxN).2 e he k hke]
            exact List.mem_filter.2 ⟨hp.mem_iff.1 hk', beq_iff_eq.2 htx⟩
    · intro k hkk
      obtain ⟨i, l', hso, _, hm⟩ := hk k hkk
      refine hm (wfhSubs_subOf T q subs hws i l' hso) (hNL.sublist (List.Sublist.map _ ?_))
      rw [nodesL_eq_flatMap']
      exact List.sublist_flatten_of_mem (List.mem_map_of_mem hkk)

theorem mem_allNodes (H : Ham) (x : Node) :
    x ∈ Node.nodesL H.forest ++ H.singletons ↔ ∃ l ∈ H.allLocs, l.node = x := by
  rw [← allLocs_nodes, List.mem_map]

theorem regExact_of {H : Ham} (ok : ForestOK H) : H.regExact = true := by
  simp only [Ham.regExact, List.all_eq_true, Bool.and_eq_true, decide_eq_true_eq, List.contains_eq_mem]
  intro t ht
  have hint : H.tree.isInternalAt t = true := (List.mem_filter.mp ht).2
  refine ⟨⟨?_, ?_⟩, ?_⟩
  · exact ok.regk.sublist ((List.filter_sublist).map _)
  · -- what is logged at `t` is a HOG node of the forest at `t`
    intro k hk
    obtain ⟨e, he, rfl⟩ := List.mem_map.mp hk
    obtain ⟨her, het⟩ := List.mem_filter.mp he
    have het' : e.1 = t := by simpa using het
    have h1 := ok.reg.mem_iff.mp her
    rw [regOfL_eq_hogsL, List.mem_map] at h1
    obtain ⟨x, hx, rfl⟩ := h1
    rw [hogs_eq_nodes_filter.hogsL_eq] at hx
    obtain ⟨l, hl, rfl⟩ := (mem_allNodes H x).mp (List.mem_append_left _ (List.mem_filter.mp hx).1)
    exact List.mem_map.mpr ⟨l, List.mem_filter.mpr ⟨hl, by simpa using het'⟩, rfl⟩
  · -- a node at the internal taxon `t` is neither a gene of a family nor a singleton: it is a HOG, hence logged
    intro k hk
    obtain ⟨l, hl, rfl⟩ := List.mem_map.mp hk
    obtain ⟨hla, hlt⟩ := List.mem_filter.mp hl
    have hlt' : l.node.tx = t := by simpa using hlt
    have hx := (mem_allNodes H l.node).mpr ⟨l, hla, rfl⟩
    have hnotleaf : H.tree.isLeafAt t = true → False := fun h => leaf_not_internal _ _ h hint
    rcases List.mem_append.mp hx with hx | hx
    · have hng : l.node.isGene = false := by
        cases hg : l.node.isGene with
        | false => rfl
        | true =>
          have := (ok.shape _ hx).1 hg
          rw [hlt'] at this
          exact (hnotleaf this).elim
      have hh : l.node ∈ Node.hogsL H.forest := by
        rw [hogs_eq_nodes_filter.hogsL_eq]
        exact List.mem_filter.mpr ⟨hx, by simp [hng]⟩
      have hr : (l.node.tx, l.node.key) ∈ H.reg := by
        apply ok.reg.mem_iff.mpr
        rw [regOfL_eq_hogsL]
        exact List.mem_map.mpr ⟨_, hh, rfl⟩
      exact List.mem_map.mpr ⟨_, List.mem_filter.mpr ⟨hr, by simpa using hlt'⟩, rfl⟩
    · rw [singletons_eq] at hx
      obtain ⟨g, hg, hge⟩ := List.mem_map.mp hx
      have := ok.gleaf g (List.mem_filter.mp hg).1
      have htx : l.node.tx = g.tx := by
        rw [← hge]
        rfl
      rw [← htx, hlt'] at this
      exact (hnotleaf this).elim

namespace Loaded
variable {D : Dataset} {H : Ham}

theorem regExact (L : Loaded D H) : H.regExact = true := regExact_of L.forest

/-- the loaded analysis satisfies the whole predicate `Ham.wf` -/
theorem wf (L : Loaded D H) : H.wf = true := by
  have hkeys := keys_nodup_of L.forest
  simp only [Ham.wf, Bool.and_eq_true, List.all_eq_true, decide_eq_true_eq, Bool.not_eq_true',
    Option.isNone_iff_eq_none]
  refine ⟨⟨⟨?_, hkeys⟩, L.forest.gids⟩, L.forest.gleaf⟩
  intro p hp
  obtain ⟨f, hf, hr⟩ := L.real_mem p hp
  have hN : (p.2.nodes.map Node.key).Nodup := by
    rw [keys_eq] at hkeys
    have h1 : p.2.nodes.Sublist (Node.nodesL H.forest) := by
      rw [nodesL_eq_flatMap']
      exact sublist_flatMap_of_mem Node.nodes H.forest p.2 (List.mem_map.mpr ⟨p, hp, rfl⟩)
    exact hkeys.sublist ((h1.trans (List.sublist_append_left _ _)).map _)
  refine ⟨⟨⟨⟨realises_aligned f.1 f.2 p.2 hr, realises_disciplined D.T f.1 f.2 p.2 (L.wfh f hf) hr⟩, ?_⟩,
    L.unflagged p hp⟩, ?_⟩
  · rw [L.tree]
    exact realises_eventsOk D.T f.1 f.2 p.2 hr (L.wfh f hf) hN
  · cases hl : f.2 with
    | gene _ _ =>
      have hwg := (L.hc.fams_ok f hf).1
      rw [hl] at hwg
      cases hwg
    | grp w hid label subs =>
      rw [hl] at hr
      simp only [Realises] at hr
      obtain ⟨info, d, kids, dups, hn, _⟩ := hr
      rw [hn]
      rfl

end Loaded

/-- **every consistent dataset loads into an analysis satisfying the whole predicate `Ham.wf`**,
    with exact genome registries and exact genome sizes -/
theorem loaded_consistent_wf (D : Dataset) (hc : D.Consistent) :
    ∃ H, load D.T D.nm D.file = .ok H ∧ H.wf = true ∧ H.regExact = true ∧ H.sizesExact = true := by
  obtain ⟨H, L⟩ := Loaded.of_consistent D hc
  exact ⟨H, L.eq, L.wf, L.regExact, L.sizes⟩

end Pyham
