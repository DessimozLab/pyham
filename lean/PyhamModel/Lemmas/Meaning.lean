/-
  C06, the cluster side: what exactly is stored in RETAINED and DUPLICATE.
  `C06_reported_under` (Compose.lean) characterises the upward search; the theorems here tie the two dictionaries of a
  comparison to the search: a pair is in RETAINED iff the search of the descendant gene ends, unflagged, at
  that ancestor; a gene is in the DUPLICATE list of an ancestor iff its search ends, flagged, at that ancestor.
-/
import PyhamModel.Lemmas.Partition
namespace Pyham

theorem mem_upOf (H : Ham) (a d : Taxon) (n : Node) (o : Option Node) (f : Bool) :
    (n, o, f) ∈ upOf H a d ↔ ∃ r ∈ H.nodesAt d, r.node = n ∧ search a r = (o, f) := by
  unfold upOf
  rw [List.mem_map]
  constructor
  · rintro ⟨r, hr, he⟩
    simp only [Prod.mk.injEq] at he
    exact ⟨r, hr, he.1, Prod.ext he.2.1 he.2.2⟩
  · rintro ⟨r, hr, rfl, hs⟩
    refine ⟨r, hr, ?_⟩
    rw [hs]

theorem mem_pairsOf_upOf (H : Ham) (a d : Taxon) (f : Bool) (x n : Node) :
    (x, n) ∈ pairsOf f (upOf H a d) ↔ ∃ r ∈ H.nodesAt d, r.node = n ∧ search a r = (some x, f) := by
  rw [mem_pairsOf, mem_upOf]

/-- **C06, retained**: `(x, n)` is an item of RETAINED iff `n` is a member of the descendant genome whose
    upward search ends at `x` without meeting a duplication -/
theorem C06_retained_iff (H : Ham) (hw : H.WFc) (a d : Taxon) (x n : Node) :
    (x, n) ∈ (hogsMap H a d).retained ↔ ∃ r ∈ H.nodesAt d, r.node = n ∧ search a r = (some x, false) := by
  rw [hogsMap_retained_pairs hw, mem_pairsOf_upOf]

/-- **C06, duplicated**: `n` is in the DUPLICATE list of the ancestral gene with identity `k` iff `n` is a member
    of the descendant genome whose upward search ends at that gene having met a duplication (its own flag or a
    flag strictly in between, `C06_reported_under` in Compose.lean) -/
theorem C06_duplicated_iff (H : Ham) (a d : Taxon) (k : Key) (n : Node) :
    (∃ e ∈ (hogsMap H a d).dupl, e.1.key = k ∧ n ∈ e.2) ↔
      ∃ r ∈ H.nodesAt d, r.node = n ∧ ∃ x, search a r = (some x, true) ∧ x.key = k := by
  rw [hogsMap_dupl_groups, mem_sdFold]
  constructor
  · rintro ⟨⟨x, n'⟩, hp, hk, rfl⟩
    obtain ⟨r, hr, hn, hs⟩ := (mem_pairsOf_upOf H a d true x n').1 hp
    exact ⟨r, hr, hn, x, hs, hk⟩
  · rintro ⟨r, hr, hn, x, hs, hk⟩
    exact ⟨(x, n), (mem_pairsOf_upOf H a d true x n).2 ⟨r, hr, hn, hs⟩, hk, rfl⟩

/-- every key of RETAINED and of DUPLICATE is a gene of the ancestral genome (it lives at the ancestral taxon and
    belongs to the analysis), and no DUPLICATE list is empty -/
theorem C06_entries_sound (H : Ham) (hw : H.WFc) (a d : Taxon) :
    (∀ e ∈ (hogsMap H a d).retained, e.1.tx = a ∧ ∃ post, (⟨e.1, post⟩ : Loc) ∈ H.nodesAt a) ∧
    (∀ e ∈ (hogsMap H a d).dupl, e.1.tx = a ∧ (∃ post, (⟨e.1, post⟩ : Loc) ∈ H.nodesAt a) ∧ e.2 ≠ []) := by
  have key : ∀ (f : Bool) (p : Node × Node), p ∈ pairsOf f (upOf H a d) →
      p.1.tx = a ∧ ∃ post, (⟨p.1, post⟩ : Loc) ∈ H.nodesAt a := by
    intro f p hp
    obtain ⟨r, hr, _, hs⟩ := (mem_pairsOf_upOf H a d f p.1 p.2).1 hp
    obtain ⟨post, hx, hxa, _⟩ := search_some hw (nodesAt_allLocs hr).1 hs
    exact ⟨hxa, post, mem_nodesAt.2 ⟨hx, hxa⟩⟩
  constructor
  · intro e he
    rw [hogsMap_retained_pairs hw] at he
    exact key false e he
  · intro e he
    rw [hogsMap_dupl_groups] at he
    obtain ⟨p, hp, hpe⟩ := ((sdFold_spec _).2.1 e he).2
    obtain ⟨h1, h2⟩ := key true p hp
    rw [hpe] at h1 h2
    exact ⟨h1, h2, sdFold_ne_nil _ e he⟩

end Pyham
