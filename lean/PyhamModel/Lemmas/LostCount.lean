/-
  How many genes of an ancestral genome are LOST over an arbitrary branch `a → d`: on the hierarchy, the members of `a` with
  no member of `d` in their subtree; on the histories of a consistent dataset, the lineages at `a` that are extinct at `d`.
-/
import PyhamModel.Lemmas.GainedCount
import PyhamModel.Lemmas.Clustering
namespace Pyham

/-! ### on a hierarchy that realises a history -/

/-- a HOG at `a` without any HOG at `d` in its subtree -/
def extinctHere (a d : Taxon) (x : Node) : Bool := x.tx == a && ((x.hogs.filter fun y => y.tx == d).length == 0)

def extinctCountL (a d : Taxon) (ks : List Node) : Nat := ((Node.hogsL ks).filter (extinctHere a d)).length

theorem extinctCountL_cons (a d : Taxon) (k : Node) (ks : List Node) :
    extinctCountL a d (k :: ks) = (k.hogs.filter (extinctHere a d)).length + extinctCountL a d ks := by
  simp only [extinctCountL, Node.hogsL, List.filter_append, List.length_append]

def extinctFold (a d : Taxon) : HFold Unit where
  F q _ l := extinctAt a d q l
  FS q _ subs := extinctAtSubs a d q subs
  FC q _ cs := extinctAtCopies a d q cs
  here q _ subs := if q == a && (if q == d then 1 else 0) + lineagesAtSubs d q subs == 0 then 1 else 0
  down _ s := s
  sub s _ := s
  ev _ _ _ := 0
  grp _ _ _ _ _ _ := rfl
  nil _ _ := rfl
  one _ _ _ _ _ := rfl
  dup _ _ _ _ _ _ := by simp only [extinctAtSubs, Nat.zero_add]
  ann _ _ _ _ := rfl
  cnil _ _ := rfl
  ccons _ _ _ _ := rfl

def extinctCount (a d : Taxon) : NFold (extinctFold a d) where
  N _ n := (n.hogs.filter (extinctHere a d)).length
  NL _ ks := extinctCountL a d ks
  ok _ _ := True
  nil _ := rfl
  cons _ k ks := extinctCountL_cons a d k ks
  gene _ _ _ _ _ := rfl
  hog _ q w hid lab subs info dd kids dups h _ := by
    have hh : extinctHere a d (.hog info q dd kids dups) = (q == a && lineagesAt d q (.grp w hid lab subs) == 0) := by
      unfold extinctHere
      rw [realises_lineage_count d q _ _ h]
      rfl
    refine (length_filter_cons ..).trans ?_
    rw [hh]
    rfl
  ok_sub _ _ _ _ _ _ _ _ _ := trivial
  ev _ _ _ := rfl

theorem realises_ext (a d q : Taxon) (l : SL) (n : Node) (h : Realises q l n) :
    (n.hogs.filter (extinctHere a d)).length = extinctAt a d q l :=
  (extinctCount a d).agree q () l n h trivial

theorem realisesSubs_ext (a d q : Taxon) : (subs : List Sub) → (plain : List Node) →
    (evs : List (DupRec × List Node)) → RealisesSubs q subs plain evs →
    extinctCountL a d plain + extinctCountL a d (evs.flatMap (·.2)) = extinctAtSubs a d q subs :=
  fun subs plain evs h => (extinctCount a d).agreeSubs q () subs plain evs h (fun _ _ _ => trivial)

theorem realisesCopies_ext (a d q : Taxon) : (cs : List SL) → (ks : List Node) → RealisesCopies q cs ks →
    extinctCountL a d ks = extinctAtCopies a d q cs :=
  fun cs ks h => (extinctCount a d).agreeCopies q () () cs ks h (fun _ _ => rfl) (fun _ _ => trivial)

/-! ### on any well-formed hierarchy: the comparison `a → d` -/

/-- LOSS, counted through the keys the descendant genome's members were reported under -/
theorem lost_length_seen (H : Ham) (a d : Taxon) :
    (hogsMap H a d).loss.length =
      ((H.nodesAt a).filter fun l => !(clustersOf (upOf H a d)).seen.contains l.node.key).length := by
  rw [hogsMap_loss, List.filter_map, List.length_map]
  rfl

theorem sub_mem_allLocs {H : Ham} {l m : Loc} (hl : l ∈ H.allLocs) (hm : m ∈ locs l.anc l.node) : m ∈ H.allLocs := by
  rcases mem_allLocs.mp hl with ⟨p, hp, hlp⟩ | ⟨g, hg, rfl⟩
  · exact mem_allLocs.mpr (Or.inl ⟨p, hp, locs_sub p.2 [] l hlp m hm⟩)
  · simp only [Ham.singletons, List.mem_map] at hg
    obtain ⟨g0, _, rfl⟩ := hg
    simp only [locs, List.mem_singleton] at hm
    exact hm ▸ hl

/-- a member of the genome at `a` is somebody's ancestor in the genome at `d` iff its subtree has a node at `d` -/
theorem seen_iff_subtree (H : Ham) (hw : H.WFc) (a d : Taxon) (hne : a ≠ d) (l : Loc) (hl : l ∈ H.allLocs) (hla : l.node.tx = a) :
    (clustersOf (upOf H a d)).seen.contains l.node.key = true ↔ ∃ y ∈ l.node.nodes, y.tx = d := by
  rw [clusters_seen]
  simp only [List.contains_eq_mem, List.mem_filterMap, upOf, List.mem_map, Option.map_eq_some_iff,
    decide_eq_true_eq]
  constructor
  · rintro ⟨e, ⟨r, hr, rfl⟩, x, hs, hk⟩
    simp only at hs
    obtain ⟨hrl, hrt⟩ := nodesAt_allLocs hr
    obtain ⟨pre, post, hL, hxa, _, _⟩ := (C06_reported_under H hw a r hrl x (search a r).2).mp (Prod.ext hs rfl)
    -- x is located, hence is l
    rcases mem_allLocs.mp hrl with ⟨p, hp, hlp⟩ | ⟨g, _, rfl⟩
    · obtain ⟨hx, hin⟩ := locs_split p.2 [] r hlp pre x post hL (by simp)
      have hxl : (⟨x, post⟩ : Loc) ∈ H.allLocs := mem_allLocs.mpr (Or.inl ⟨p, hp, hx⟩)
      have := key_inj hw hxl hl hk
      subst this
      refine ⟨r.node, ?_, hrt⟩
      have hn := locs_nodes x post
      rw [← hn]
      exact List.mem_map.mpr ⟨r, hin, rfl⟩
    · simp at hL
  · rintro ⟨y, hy, hyd⟩
    -- the located member for y inside the subtree of l
    have hn := locs_nodes l.node l.anc
    rw [← hn] at hy
    obtain ⟨m, hm, rfl⟩ := List.mem_map.mp hy
    have hml := sub_mem_allLocs hl hm
    rcases locs_anc_cases l.node l.anc m hm with rfl | ⟨pre, hpre⟩
    · exact absurd (hla.symm.trans hyd) hne
    · have hmem : l.node ∈ m.anc := by
        rw [← hpre]
        simp
      have hs : search a m = (some l.node, flagged m.node || pre.any flagged) :=
        (C06_reported_under H hw a m hml l.node _).mpr ⟨pre, l.anc, hpre.symm, hla,
          fun z hz hza => chain_unique_at _ _ (allLocs_chain hw hml) a z l.node hz hmem hza hla, rfl⟩
      exact ⟨(m.node, (search a m).1, (search a m).2), ⟨m, mem_nodesAt.mpr ⟨hml, hyd⟩, rfl⟩, l.node,
        congrArg Prod.fst hs, rfl⟩

theorem not_seen_eq (H : Ham) (hw : H.WFc) (a d : Taxon) (hne : a ≠ d) (l : Loc) (hl : l ∈ H.allLocs)
    (hla : l.node.tx = a) :
    (!(clustersOf (upOf H a d)).seen.contains l.node.key) = (l.node.nodes.filter fun y => y.tx == d).isEmpty := by
  rw [Bool.eq_iff_iff, Bool.not_eq_true', ← Bool.not_eq_true, seen_iff_subtree H hw a d hne l hl hla, List.isEmpty_iff,
    List.filter_eq_nil_iff]
  simp

/-- **the number of lost genes over any branch, on the hierarchy**: members of `a` with no node at `d` in their subtree -/
theorem C06_lost_count (H : Ham) (hw : H.WFc) (a d : Taxon) (hne : a ≠ d) :
    (hogsMap H a d).loss.length =
      famSum H (fun top => ((locs [] top).filter fun l =>
        l.node.tx == a && (l.node.nodes.filter fun y => y.tx == d).isEmpty).length) +
      (singletonsAt H a).length := by
  rw [lost_length_seen]
  refine c10_add H a _ _ _ (fun o top hp => ?_) (congrArg List.length (List.filter_eq_self.mpr fun g hg => ?_))
  · rw [List.filter_filter]
    refine congrArg List.length (List.filter_congr fun l hl => ?_)
    rw [Bool.and_comm (!(clustersOf (upOf H a d)).seen.contains l.node.key)]
    cases hta : l.node.tx == a with
    | false => rfl
    | true =>
      exact (not_seen_eq H hw a d hne l (mem_allLocs.mpr (Or.inl ⟨(o, top), hp, hl⟩)) (by simpa using hta)).symm
  · obtain ⟨hg', hgt⟩ := List.mem_filter.mp hg
    have hgt : g.tx = a := by simpa using hgt
    rw [not_seen_eq H hw a d hne ⟨g, []⟩ (mem_allLocs.mpr (Or.inr ⟨g, hg', rfl⟩)) hgt]
    simp only [Ham.singletons, List.mem_map] at hg'
    obtain ⟨g0, _, rfl⟩ := hg'
    have : ((Node.gene g0.id g0.tx none none).tx == d) = false :=
      beq_eq_false_iff_ne.mpr fun e => hne (hgt.symm.trans e)
    simp [Node.nodes, this]

/-! ### on the histories of a consistent dataset -/

theorem mem_nodes_trans (n x y : Node) (hx : x ∈ n.nodes) (hy : y ∈ x.nodes) : y ∈ n.nodes := by
  rw [← locs_nodes n []] at hx ⊢
  obtain ⟨lx, hlx, rfl⟩ := List.mem_map.mp hx
  rw [← locs_nodes lx.node lx.anc] at hy
  obtain ⟨m, hm, rfl⟩ := List.mem_map.mp hy
  exact List.mem_map.mpr ⟨m, locs_sub n [] lx hlx m hm, rfl⟩

namespace Loaded

theorem lost {D : Dataset} {H : Ham} (L : Loaded D H) (a d : Taxon) (hne : a ≠ d)
    (hinta : D.T.isInternalAt a = true) (hintd : D.T.isInternalAt d = true) :
    (hogsMap H a d).loss.length = (D.fams.map fun f => extinctAt a d f.1 f.2).sum := by
  rw [C06_lost_count H L.wfc a d hne, L.no_singletons a hinta, List.length_nil, Nat.add_zero]
  refine L.famSum _ (extinctAt a d) ?_
  intro p _ e he hr
  have hgene := realises_gene_tx D.T _ _ _ (L.wfh e he) hr
  show ((locs [] p.2).filter fun l => l.node.tx == a && (l.node.nodes.filter fun y => y.tx == d).isEmpty).length = _
  rw [← realises_ext a d _ _ _ hr,
    locs_filter_node p.2 [] fun x => x.tx == a && (x.nodes.filter fun y => y.tx == d).isEmpty,
    hogs_eq_nodes_filter, List.filter_filter]
  congr 1
  apply List.filter_congr
  intro x hx
  cases hta : x.tx == a with
  | false => simp [extinctHere, hta]
  | true =>
    -- genes sit at leaves: x at `a` is a HOG, and the nodes of its subtree at `d` are HOGs
    have hxa : x.tx = a := by simpa using hta
    have hng : x.isGene = false := by
      cases hg : x.isGene with
      | false => rfl
      | true => exact absurd hxa (hgene a hinta x hx hg)
    have hcnt := nodes_filter_internal x d (fun y hy => hgene d hintd y (mem_nodes_trans _ _ _ hx hy))
    simp only [extinctHere, hta, hng, Bool.true_and, Bool.not_false, Bool.and_true, ← hcnt]
    cases (x.nodes.filter fun y => y.tx == d) <;> rfl

end Loaded

/-- **the number of lost genes over any branch, on the histories**: for every consistent dataset and any two distinct
    ancestral nodes `a`, `d`, the comparison `a → d` reports as many lost genes as lineages of the histories cross `a` and are extinct at `d` -/
theorem C06_lost_count_is_the_history (D : Dataset) (hc : D.Consistent) :
    ∃ H, load D.T D.nm D.file = .ok H ∧ ∀ a d, a ≠ d → D.T.isInternalAt a = true → D.T.isInternalAt d = true →
      (hogsMap H a d).loss.length = (D.fams.map fun f => extinctAt a d f.1 f.2).sum := by
  obtain ⟨H, L⟩ := Loaded.of_consistent D hc
  exact ⟨H, L.eq, L.lost⟩

end Pyham
