/-
  C06 (what the upward search reports, what lost / gained mean; retained / duplicated are in Meaning.lean)
  and C07 (comparisons compose along a lineage) for the members of a well-formed analysis.
-/
import PyhamModel.Lemmas.Partition
namespace Pyham

theorem allLocs_chain {H : Ham} (hw : H.WFc) {l : Loc} (hl : l ∈ H.allLocs) : Chain l.node.tx l.anc := by
  rcases mem_allLocs.mp hl with ⟨p, hp, hlp⟩ | ⟨g, _, rfl⟩
  · exact chain_locs p.2 [] (hw.aligned p hp) trivial l hlp
  · trivial

theorem anc_mem_allLocs {H : Ham} {r : Loc} (hr : r ∈ H.allLocs) {pre : List Node} {y : Node} {post : List Node}
    (hL : r.anc = pre ++ y :: post) : (⟨y, post⟩ : Loc) ∈ H.allLocs := by
  rcases mem_allLocs.mp hr with ⟨p, hp, hlp⟩ | ⟨g, _, rfl⟩
  · exact mem_allLocs.mpr (Or.inl ⟨p, hp, (locs_split p.2 [] r hlp pre y post hL (Nat.zero_le _)).1⟩)
  · exact absurd hL (List.ne_nil_of_length_pos (by rw [List.length_append, List.length_cons]; omega)).symm

/-- **C06**: a member `r` of the descendant genome is reported under ancestor `x` with flag `f` iff
    `x` is the (unique) ancestor of `r` living in the ancestral genome, and `f` says whether `r` or
    any HOG strictly between the two arose by duplication -/
theorem C06_reported_under (H : Ham) (hw : H.WFc) (a : Taxon) (r : Loc) (hr : r ∈ H.allLocs)
    (x : Node) (f : Bool) :
    search a r = (some x, f) ↔
      ∃ pre post, r.anc = pre ++ x :: post ∧ x.tx = a ∧
        (∀ y ∈ r.anc, y.tx = a → y = x) ∧ f = (flagged r.node || pre.any flagged) := by
  have hc := allLocs_chain hw hr
  constructor
  · intro hs
    obtain ⟨pre, post, hL, _, hx, hf⟩ := (search_some_iff a r x f).1 hs
    refine ⟨pre, post, hL, hx, ?_, hf⟩
    intro y hy hya
    exact chain_unique_at _ _ hc a y x hy (by simp [hL]) hya hx
  · rintro ⟨pre, post, hL, hx, _, hf⟩
    refine (search_some_iff a r x f).2 ⟨pre, post, hL, ?_, hx, hf⟩
    -- what comes before `x` on the chain lies deeper than `x`
    intro y hy hya
    have := (chain_split (hL ▸ hc)).1 y hy
    rw [hya, hx] at this
    exact Nat.lt_irrefl _ this

theorem gained_iff_search (H : Ham) (a d : Taxon) (n : Node) :
    n ∈ (hogsMap H a d).gain ↔ ∃ r ∈ H.nodesAt d, r.node = n ∧ (search a r).1 = none := by
  rw [hogsMap_gain, clusters_gain, List.mem_filterMap]
  constructor
  · rintro ⟨e, he, hn⟩
    obtain ⟨r, hr, rfl⟩ := List.mem_map.1 he
    by_cases h : (search a r).1.isNone = true
    · rw [if_pos h] at hn
      exact ⟨r, hr, Option.some.inj hn, Option.isNone_iff_eq_none.1 h⟩
    · rw [if_neg h] at hn
      exact nomatch hn
  · rintro ⟨r, hr, rfl, hs⟩
    exact ⟨_, List.mem_map.2 ⟨r, hr, rfl⟩, if_pos (Option.isNone_iff_eq_none.2 hs)⟩

theorem lost_iff_search (H : Ham) (a d : Taxon) (x : Loc) (hx : x ∈ H.nodesAt a) :
    x.node ∈ (hogsMap H a d).loss ↔ ∀ r ∈ H.nodesAt d, ∀ y, (search a r).1 = some y → y.key ≠ x.node.key := by
  rw [hogsMap_loss, List.mem_filter, clusters_seen]
  simp only [Bool.not_eq_true', List.contains_eq_mem, decide_eq_false_iff_not, List.mem_filterMap, upOf,
    List.mem_map, Option.map_eq_some_iff, not_exists, not_and]
  constructor
  · rintro ⟨_, hns⟩ r hr y hs hk
    exact hns _ ⟨r, hr, rfl⟩ y hs hk
  · intro h
    refine ⟨⟨x, hx, rfl⟩, ?_⟩
    rintro e ⟨r, hr, rfl⟩ y hs hk
    exact h r hr y hs hk

/-- **C06**: gained iff none of its ancestors in its family lives in the ancestral genome -/
theorem C06_gained_iff (H : Ham) (a d : Taxon) (n : Node) :
    n ∈ (hogsMap H a d).gain ↔ ∃ r ∈ H.nodesAt d, r.node = n ∧ ∀ y ∈ r.anc, y.tx ≠ a := by
  simp only [gained_iff_search, search_none_iff]

/-- **C06**: an ancestral gene is lost iff no member of the descendant genome descends from it -/
theorem C06_lost_iff (H : Ham) (hw : H.WFc) (a d : Taxon) (x : Loc) (hx : x ∈ H.nodesAt a) :
    x.node ∈ (hogsMap H a d).loss ↔ ∀ r ∈ H.nodesAt d, ∀ y ∈ r.anc, y.key ≠ x.node.key := by
  rw [lost_iff_search H a d x hx]
  obtain ⟨hxl, hxa⟩ := nodesAt_allLocs hx
  constructor
  · intro h r hr y hy hk
    -- y is an ancestor of r with the key of x, hence located, hence equal to x, hence at taxon a
    have hrl := (nodesAt_allLocs hr).1
    obtain ⟨pre, post, hL⟩ := List.append_of_mem hy
    have hya : y.tx = a := by rw [← hxa, ← key_inj hw (anc_mem_allLocs hrl hL) hxl hk]
    -- so the search from r finds y
    have hc := allLocs_chain hw hrl
    have hs : search a r = (some y, flagged r.node || pre.any flagged) :=
      (C06_reported_under H hw a r hrl y _).mpr ⟨pre, post, hL, hya,
        fun z hz hza => chain_unique_at _ _ hc a z y hz hy hza hya, rfl⟩
    exact h r hr y (by rw [hs]) hk
  · intro h r hr y hs hk
    obtain ⟨pre, post, hL, _⟩ :=
      (C06_reported_under H hw a r (nodesAt_allLocs hr).1 y (search a r).2).mp (Prod.ext hs rfl)
    exact h r hr y (by rw [hL]; exact List.mem_append_right _ List.mem_cons_self) hk

/-- **C06**: the number of duplication events equals the sum over duplicated ancestors of (copies - 1);
    this is how `hogsMap` computes it (`countDup`), so the statement holds by unfolding -/
theorem C06_number_duplications (H : Ham) (a d : Taxon) :
    (hogsMap H a d).ndup = ((hogsMap H a d).dupl.map fun e => e.2.length - 1).sum := by
  simp [hogsMap, countDup]

/-- **C07**: comparisons compose along a lineage.  For genomes `a` above `b` above `c` and a member
    `r` of `c`: if `r` is reported under `y` of `b` (with flag `g`), then what `r` is reported under in
    `a` is what `y` is reported under in `a`, flags composing by "or"; if `r` has no ancestor in `b`
    it has none in `a` either. -/
theorem C07_compose (H : Ham) (hw : H.WFc) (a b : Taxon) (hab : a <:+ b) (hne : a ≠ b)
    (r : Loc) (hr : r ∈ H.allLocs) (hbr : b <:+ r.node.tx) (hbne : b ≠ r.node.tx) :
    (∀ y g, search b r = (some y, g) →
        ∃ post, (⟨y, post⟩ : Loc) ∈ H.nodesAt b ∧
          search a r = ((search a ⟨y, post⟩).1, g || (search a ⟨y, post⟩).2)) ∧
    (∀ g, search b r = (none, g) → (search a r).1 = none) := by
  have hc := allLocs_chain hw hr
  have hlen := suffix_length_lt hab hne
  constructor
  · intro y g hs
    obtain ⟨pre, post, hL, hyb, _, hg⟩ := (C06_reported_under H hw b r hr y g).mp hs
    refine ⟨post, mem_nodesAt.2 ⟨anc_mem_allLocs hr hL, hyb⟩, ?_⟩
    -- nothing at or below `y` sits at level `a`: it lies at least as deep as `b`
    have hdeep := (chain_split (hL ▸ hc)).1
    rw [hyb] at hdeep
    have hy : y.tx ≠ a := fun h => hne (h.symm.trans hyb)
    have hpre : ∀ z ∈ pre, z.tx ≠ a := by
      intro z hz hza
      have := hdeep z hz
      rw [hza] at this
      omega
    unfold search
    rw [hL, searchUp_compose a pre post y _ hpre hy, hg]
    rfl
  · intro g hs
    have hnb : ∀ y ∈ r.anc, y.tx ≠ b := (search_none_iff b r).mp (by rw [hs])
    rw [chain_none_iff hc hbr hbne] at hnb
    have hat : a ≠ r.node.tx := by
      intro h
      rw [h] at hlen
      exact absurd hbr.length_le (by omega)
    rw [search_none_iff, chain_none_iff hc (hab.trans hbr) hat]
    omega

end Pyham
