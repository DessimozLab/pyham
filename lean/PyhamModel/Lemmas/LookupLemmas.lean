/-
  C15: lookups are coherent with listings and never ambiguous.  Before it, for other files as well: `find?` with one
  candidate, and python's dict insertion `dictPut`.
-/
import PyhamModel.Model.Lookup
import PyhamModel.Lemmas.TreeLemmas
namespace Pyham

theorem find_unique {α} (P : α → Bool) (l : List α) (t : α) (ht : t ∈ l) (hP : P t = true)
    (hu : ∀ u ∈ l, P u = true → u = t) : l.find? P = some t := by
  cases hf : l.find? P with
  | none => exact absurd hP (List.find?_eq_none.mp hf t ht)
  | some u => rw [hu u (List.mem_of_find?_eq_some hf) (List.find?_some hf)]

theorem find_nodup_key {α β} [BEq β] [LawfulBEq β] (f : α → β) (l : List α) (hn : (l.map f).Nodup)
    (g : α) (hg : g ∈ l) : l.find? (fun x => f x == f g) = some g :=
  find_unique _ l g hg (beq_self_eq_true _) fun u hu hfu =>
    filterMap_nodup_inj (some ∘ f) l (by rwa [List.filterMap_eq_map]) u g hu hg (f g)
      (congrArg some (eq_of_beq hfu)) rfl

theorem find_key_none {α β} [BEq β] [LawfulBEq β] (f : α → β) (l : List α) (k : β) (h : k ∉ l.map f) :
    l.find? (fun x => f x == k) = none :=
  List.find?_eq_none.mpr fun x hx e => h (List.mem_map.mpr ⟨x, hx, eq_of_beq e⟩)

theorem dictPut_of_not_mem {β} {d : List (Option String × β)} {k : Option String} (v : β)
    (h : k ∉ d.map (·.1)) : dictPut d k v = d ++ [(k, v)] :=
  if_neg fun hany => by
    obtain ⟨e, he, hk⟩ := List.any_eq_true.mp hany
    exact h (List.mem_map.mpr ⟨e, he, eq_of_beq hk⟩)

theorem dictPut_keys_of_mem {β} {d : List (Option String × β)} {k : Option String} (v : β)
    (h : k ∈ d.map (·.1)) : (dictPut d k v).map (·.1) = d.map (·.1) := by
  obtain ⟨e, he, hek⟩ := List.mem_map.mp h
  have hany : d.any (·.1 == k) = true := List.any_eq_true.mpr ⟨e, he, beq_iff_eq.mpr hek⟩
  rw [dictPut, if_pos hany, List.map_map]
  refine List.map_congr_left fun e _ => ?_
  show (if e.1 == k then (k, v) else e).1 = e.1
  split
  · exact (eq_of_beq ‹_›).symm
  · rfl

theorem foldl_dictPut_fresh {β} (f : β → Option String) (l : List β) (d : List (Option String × β))
    (h : (d.map (·.1) ++ l.map f).Nodup) :
    l.foldl (fun d n => dictPut d (f n) n) d = d ++ l.map (fun n => (f n, n)) := by
  induction l generalizing d with
  | nil => exact (List.append_nil d).symm
  | cons x xs ih =>
    have hx : f x ∉ d.map (·.1) := fun hm => (List.nodup_append.mp h).2.2 _ hm _ List.mem_cons_self rfl
    rw [List.foldl_cons, dictPut_of_not_mem x hx, ih, List.append_assoc]
    · rfl
    · rwa [List.map_append, List.append_assoc]

theorem foldl_dictPut_keys_nodup {β} (f : β → Option String) (l : List β) (d : List (Option String × β))
    (h : (d.map (·.1)).Nodup) : ((l.foldl (fun d n => dictPut d (f n) n) d).map (·.1)).Nodup := by
  induction l generalizing d with
  | nil => exact h
  | cons x xs ih =>
    refine ih (dictPut d (f x) x) ?_
    by_cases hk : f x ∈ d.map (·.1)
    · rw [dictPut_keys_of_mem x hk]
      exact h
    · rw [dictPut_of_not_mem x hk, List.map_append]
      exact List.perm_append_singleton _ _ |>.nodup_iff.mpr (List.nodup_cons.mpr ⟨hk, h⟩)

/-- python dict insertion keeps keys repetition-free -/
theorem dictPut_keys_nodup {β} (l : List β) (f : β → Option String) :
    ((l.foldl (fun d n => dictPut d (f n) n) []).map (·.1)).Nodup :=
  foldl_dictPut_keys_nodup f l [] List.nodup_nil

/-- every listed gene is returned by the lookup under its id -/
theorem C15_gene_by_id (H : Ham) (hn : (H.genes.map (·.id)).Nodup) (g : GeneRec) (hg : g ∈ H.genes) :
    H.geneById g.id = .ok g := by
  unfold Ham.geneById
  have hn' : (H.genes.reverse.map (·.id)).Nodup := by
    rw [List.map_reverse]; exact (List.reverse_perm _).nodup_iff.mpr hn
  rw [find_nodup_key (·.id) H.genes.reverse hn' g (by simpa using hg)]

theorem C15_gene_unknown (H : Ham) (id : String) (h : id ∉ H.genes.map (·.id)) : H.geneById id = .error .key := by
  have h' : id ∉ H.genes.reverse.map (·.id) := fun hm => h (by rwa [List.map_reverse, List.mem_reverse] at hm)
  unfold Ham.geneById
  rw [find_key_none (·.id) H.genes.reverse id h']

theorem mem_xrefIds {H : Ham} {v id : String} :
    id ∈ H.xrefIds v ↔ ∃ g ∈ H.genes, g.id = id ∧ ∃ k, (k, v) ∈ g.xrefs := by
  unfold Ham.xrefIds
  simp only [List.mem_flatMap, List.mem_map, List.mem_filter, beq_iff_eq]
  constructor
  · rintro ⟨g, hg, e, ⟨he, hv⟩, hid⟩
    exact ⟨g, hg, hid, e.1, hv ▸ he⟩
  · rintro ⟨g, hg, hid, k, hk⟩
    exact ⟨g, hg, (k, v), ⟨hk, rfl⟩, hid⟩

/-- each cross-reference value returns a list containing the gene -/
theorem C15_xref (H : Ham) (g : GeneRec) (hg : g ∈ H.genes) (k v : String) (hx : (k, v) ∈ g.xrefs) :
    ∃ ids, H.genesByExternalId v = .ok ids ∧ g.id ∈ ids := by
  have hm : g.id ∈ H.xrefIds v := mem_xrefIds.mpr ⟨g, hg, rfl, k, hx⟩
  unfold Ham.genesByExternalId
  split
  · rename_i he
    rw [he] at hm
    cases hm
  · exact ⟨_, rfl, hm⟩

theorem C15_xref_sound (H : Ham) (v : String) (ids : List String) (h : H.genesByExternalId v = .ok ids) (id : String)
    (hid : id ∈ ids) : ∃ g ∈ H.genes, g.id = id ∧ ∃ k, (k, v) ∈ g.xrefs := by
  unfold Ham.genesByExternalId at h
  split at h
  · cases h
  · cases h
    exact mem_xrefIds.mp hid

theorem C15_xref_unknown (H : Ham) (v : String) (h : ∀ g ∈ H.genes, ∀ e ∈ g.xrefs, e.2 ≠ v) :
    H.genesByExternalId v = .error .key := by
  have : H.xrefIds v = [] := List.eq_nil_iff_forall_not_mem.mpr fun id hid => by
    obtain ⟨g, hg, _, k, hk⟩ := mem_xrefIds.mp hid
    exact h g hg (k, v) hk rfl
  unfold Ham.genesByExternalId
  rw [this]

/-- every listed top-level HOG is returned by the lookup under its id, provided the listing has
    repetition-free keys (which `buildHam` guarantees, see `dictPut_keys_nodup`) -/
theorem C15_hog_by_id (H : Ham) (hn : (H.tops.map (·.1)).Nodup) (id : String) (n : Node) (h : (some id, n) ∈ H.tops) :
    H.hogById id = .ok n := by
  unfold Ham.hogById
  have := find_nodup_key (·.1) H.tops hn (some id, n) h
  simp only at this
  rw [this]

theorem C15_hog_unknown (H : Ham) (id : String) (h : some id ∉ H.tops.map (·.1)) : H.hogById id = .error .key := by
  unfold Ham.hogById
  rw [find_key_none (·.1) H.tops (some id) h]

/-- an ancestral genome is found under its tree node -/
theorem C15_ancestral_by_taxon (H : Ham) (t : Taxon) (ht : t ∈ H.ancestralTaxa) :
    H.ancestralGenomeByTaxon t = .ok t := by
  unfold Ham.ancestralGenomeByTaxon
  rw [if_pos (by simpa using ht)]

/-- an ancestral genome is found under its name when the taxonomy was accepted -/
theorem C15_ancestral_by_name (H : Ham) (hok : H.tree.namesOk H.naming = true) (t : Taxon) (ht : t ∈ H.ancestralTaxa)
    (s : String) (hs : H.tree.nameAt H.naming t = some s) : H.ancestralGenomeByName s = .ok t := by
  have hint : ∀ x ∈ H.ancestralTaxa, x ∈ H.tree.internalTaxa := fun x hx => (List.mem_filter.mp hx).1
  unfold Ham.ancestralGenomeByName
  rw [find_unique (fun t => H.tree.nameAt H.naming t == some s) _ t ht (beq_iff_eq.mpr hs) fun u hu hun =>
    filterMap_nodup_inj _ _ (namesOk_internal_nodup _ _ hok) u t (hint u hu) (hint t ht) s (eq_of_beq hun) hs]

/-- a name lookup never has two candidates once the taxonomy was accepted -/
theorem C15_never_ambiguous (T : STree) (nm : Naming) (h : taxonomyBuild T nm = .ok ()) (s : String) :
    (∀ p q, p ∈ T.leafTaxa → q ∈ T.leafTaxa → T.nameAt nm p = some s → T.nameAt nm q = some s → p = q) ∧
    (∀ p q, p ∈ T.internalTaxa → q ∈ T.internalTaxa → T.nameAt nm p = some s → T.nameAt nm q = some s → p = q) := by
  have hok : T.namesOk nm = true := by
    unfold taxonomyBuild at h
    split at h
    · assumption
    · cases h
  exact ⟨fun p q hp hq => filterMap_nodup_inj _ _ (namesOk_leaf_nodup T nm hok) p q hp hq s,
    fun p q hp hq => filterMap_nodup_inj _ _ (namesOk_internal_nodup T nm hok) p q hp hq s⟩

/-- species trees whose names would make lookups ambiguous are rejected with KeyError -/
theorem C15_ambiguous_rejected (T : STree) (nm : Naming)
    (h : ¬ (T.leafTaxa.filterMap (T.nameAt nm)).Nodup ∨ ¬ (T.internalTaxa.filterMap (T.nameAt nm)).Nodup) :
    taxonomyBuild T nm = .error .key :=
  if_neg fun hok => h.elim (fun h => h (namesOk_leaf_nodup T nm hok)) fun h => h (namesOk_internal_nodup T nm hok)

/-- the taxon lookup returns a node iff exactly one node carries the name -/
theorem C15_taxon_by_name (H : Ham) (s : String) (p : Taxon) :
    H.taxonByName s = .ok p ↔ H.tree.findByName H.naming s = [p] := by
  unfold Ham.taxonByName
  split
  · rename_i q hq
    rw [hq]
    constructor
    · intro h; cases h; rfl
    · intro h; cases h; rfl
  · rename_i hq
    constructor
    · intro h; cases h
    · intro h; exact absurd h (hq p)

/-- an ancestral genome is found as the common ancestor of two distinct genomes -/
theorem C15_mrca_lookup (H : Ham) (g1 g2 : Taxon) (hne : g1 ≠ g2) (ht : mrca2 g1 g2 ∈ H.ancestralTaxa) :
    H.ancestralGenomeByMrca [g1, g2] = .ok (mrca2 g1 g2) := by
  have hd : dedup [g1, g2] = [g1, g2] := by
    simp [dedup, List.filter, Ne.symm hne]
  unfold Ham.ancestralGenomeByMrca
  rw [hd]
  simp only [mrca, List.foldl]
  exact C15_ancestral_by_taxon H _ ht

/-- extant genomes by name: every declared species is returned by its name (species names pairwise distinct) -/
theorem C15_extant_by_name (H : Ham) (hn : (H.species.map (·.1)).Nodup) (p : String × Taxon) (hp : p ∈ H.species) :
    H.extantGenomeByName p.1 = .ok p.2 := by
  unfold Ham.extantGenomeByName
  rw [find_nodup_key (·.1) H.species hn p hp]

theorem C15_extant_unknown (H : Ham) (s : String) (h : s ∉ H.species.map (·.1)) :
    H.extantGenomeByName s = .error .key := by
  unfold Ham.extantGenomeByName
  rw [find_key_none (·.1) H.species s h]

end Pyham
