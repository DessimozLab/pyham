/-
  C10, first sentence: what the tree profile of a single HOG reports at a node below the HOG's taxon.
  The model defines the per-family numbers through `levelGroup` / `profileHogAt`; the theorems here express them through
  the family's located members `locs [] top`, the objects the comparisons `hogsMap` work on.
-/
import PyhamModel.Lemmas.Additivity
namespace Pyham

theorem len_filter_add_not {α} (l : List α) (q : α → Bool) :
    l.length = (l.filter q).length + (l.filter fun x => !q x).length := by
  induction l with
  | nil => rfl
  | cons a l ih =>
    rw [List.filter_cons, List.filter_cons, List.length_cons, ih]
    cases q a
    · exact (Nat.add_assoc _ _ 1).symm
    · exact Nat.add_right_comm _ _ 1

/-- **the tree profile of a single HOG**, at every node `i :: u` other than the HOG's own taxon:
    `nbr` counts the family's members living at the node, `dupl` those of them that arose by duplication, `retained`
    the others (so `nbr = dupl + retained`), and `lost` the family's members at the parent node `u` none of whose
    children lives at the node -/
theorem C10_family_profile_meaning (top : Node) (ha : top.aligned = true) (i : Nat) (u : Taxon)
    (hne : ((i :: u) == top.tx) = false) :
    (profileHogAt top (i :: u)).nbr = ((locs [] top).filter fun l => l.node.tx == i :: u).length ∧
    on (profileHogAt top (i :: u)).dupl =
      (((locs [] top).filter fun l => l.node.tx == i :: u).filter fun l => l.node.dup.isSome).length ∧
    on (profileHogAt top (i :: u)).retained =
      (((locs [] top).filter fun l => l.node.tx == i :: u).filter fun l => !l.node.dup.isSome).length ∧
    (profileHogAt top (i :: u)).nbr =
      on (profileHogAt top (i :: u)).dupl + on (profileHogAt top (i :: u)).retained ∧
    on (profileHogAt top (i :: u)).lost =
      (((locs [] top).filter fun l => l.node.tx == u).filter
        fun x => !(x.node.kids.any fun c => c.tx == i :: u)).length ∧
    (profileHogAt top (i :: u)).gain = none := by
  obtain ⟨hd, hr, hl, _⟩ := c10_profile_on top i u
  rw [hne] at hd hr hl
  rw [hd, hr, hl, c10_F_nbr]
  refine ⟨rfl, c10_levelGroup_filter top _ _, c10_levelGroup_filter top _ _, ?_, c10_levelGroup_filter top _ _, ?_⟩
  · rw [c10_levelGroup_filter, c10_levelGroup_filter]
    exact len_filter_add_not _ _
  · simp [profileHogAt, hne, Taxon.up]

/-- **the tree profile of a single HOG at the HOG's own taxon** carries the number of the family's members there and
    nothing else -/
theorem C10_family_profile_root (top : Node) :
    profileHogAt top top.tx = { tx := top.tx, nbr := ((locs [] top).filter fun l => l.node.tx == top.tx).length } := by
  rw [c10_profile_root top top.tx (by simp), c10_levelGroup, List.length_map]

end Pyham
