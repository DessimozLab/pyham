/-
  C13 (the part a model can carry): ancestral names taken from the tree or synthesised from the leaf
  names yield the same families, levels, duplications, comparison results and tree profiles.
  Proved for files that carry no TaxRange labels (labels are compared with node names by the loader;
  with labels present the statement needs name injectivity and is validated by correspondence only).
-/
import PyhamModel.Model.Profile
import PyhamModel.Lemmas.EnvSim
namespace Pyham
open Except

mutual
/-- no `<property name="TaxRange" …>` anywhere in the element -/
def Elem.noLabel : Elem → Bool
  | .prop n _ => n != "TaxRange"
  | .og _ _ its => noLabelL its
  | .pg _ its => noLabelL its
  | _ => true
def noLabelL : List Elem → Bool
  | [] => true
  | e :: es => e.noLabel && noLabelL es
end

theorem dictSet_lookup_none (d : List (String × String)) (n v : String)
    (hn : (n != "TaxRange") = true) (h : d.lookup "TaxRange" = none) :
    (dictSet d n v).lookup "TaxRange" = none := by
  have hn2 : ("TaxRange" != n) = true := by
    simp only [bne_iff_ne, ne_eq] at hn ⊢
    exact fun h => hn h.symm
  rw [List.lookup_eq_none_iff] at *
  unfold dictSet
  split
  · intro p hp
    rw [List.mem_map] at hp
    obtain ⟨q, hq, rfl⟩ := hp
    split
    · exact hn2
    · exact h q hq
  · intro p hp
    rw [List.mem_append] at hp
    rcases hp with hp | hp
    · exact h p hp
    · simp at hp
      subst hp
      exact hn2

/-- without a TaxRange property the level of a group is inferred without looking at the environment -/
theorem inferLevel_noLabel (env1 env2 : Env) (hb : HogBuild) (h : hb.info.props.lookup "TaxRange" = none) :
    inferLevel env1 hb = inferLevel env2 hb := by
  unfold inferLevel
  simp only [h]

theorem noLabelL_mem : (es : List Elem) → noLabelL es = true → ∀ e ∈ es, e.noLabel = true
  | [], _, _, he => nomatch he
  | e :: es, h, x, hx => by
    rw [noLabelL, Bool.and_eq_true] at h
    rcases List.mem_cons.mp hx with rfl | hx
    · exact h.1
    · exact noLabelL_mem es h.2 x hx

theorem envSim_noLabel {env1 env2 : Env} (hg : env1.geneTx = env2.geneTx) :
    EnvSim env1 env2 (fun e => e.noLabel = true) (fun ps => ps.lookup "TaxRange" = none) where
  ref := fun id _ _ => by rw [Env.lookupGene, Env.lookupGene, hg]
  prop := fun n v ps hn h => dictSet_lookup_none ps n v (by rwa [Elem.noLabel] at hn) h
  pg := fun _ its hn => noLabelL_mem its (by rwa [Elem.noLabel] at hn)
  og := fun _ _ its hn => noLabelL_mem its (by rwa [Elem.noLabel] at hn)
  new := rfl
  level := fun hb h => inferLevel_noLabel env1 env2 hb h

theorem elem_naming (env1 env2 : Env) (hT : env1.T = env2.T) (hg : env1.geneTx = env2.geneTx) :
    (len : Nat) → (e : Elem) → (hb : HogBuild) → (ps : PS) →
    e.noLabel = true → hb.info.props.lookup "TaxRange" = none →
    elem env1 len e hb ps = elem env2 len e hb ps :=
  fun len e hb ps hn h => (elem_sim (envSim_noLabel hg) e len hb ps hn h).1

theorem topElem_naming (env1 env2 : Env) (hT : env1.T = env2.T) (hg : env1.geneTx = env2.geneTx)
    (flt : HogFilter) : (e : Elem) → (tops : List Node) → (ps : PS) → e.noLabel = true →
    topElem env1 flt e tops ps = topElem env2 flt e tops ps :=
  fun e tops ps hn => topElem_sim (envSim_noLabel hg) flt e tops ps hn

/-- the whole group section is read identically under two namings -/
theorem topElems_naming (env1 env2 : Env) (hg : env1.geneTx = env2.geneTx)
    (flt : HogFilter) (es : List Elem) (h : noLabelL es = true) (tops : List Node) (ps : PS) :
    topElems env1 flt es tops ps = topElems env2 flt es tops ps :=
  topElems_sim (envSim_noLabel hg) flt es tops ps (noLabelL_mem es h)

theorem declareSpecies_naming (T : STree) (nm1 nm2 : Naming) (keep : String → Bool)
    (sp : List Species) (acc : List GeneRec)
    (hs : ∀ s ∈ sp, resolveSpecies T nm1 s.name = resolveSpecies T nm2 s.name) :
    declareSpecies T nm1 keep sp acc = declareSpecies T nm2 keep sp acc := by
  induction sp generalizing acc with
  | nil => rfl
  | cons s ss ih =>
    rw [declareSpecies_cons, declareSpecies_cons, hs s (List.mem_cons_self ..)]
    exact all_true.bind_congr fun p _ => ih _ fun s' hs' => hs s' (List.mem_cons_of_mem _ hs')

theorem mapM_species_naming (T : STree) (nm1 nm2 : Naming) (sp : List Species)
    (hs : ∀ s ∈ sp, resolveSpecies T nm1 s.name = resolveSpecies T nm2 s.name) :
    sp.mapM (fun s => (resolveSpecies T nm1 s.name).map fun p => (s.name, p)) =
    sp.mapM (fun s => (resolveSpecies T nm2 s.name).map fun p => (s.name, p)) := by
  induction sp with
  | nil => rfl
  | cons s ss ih =>
    simp only [List.mapM_cons]
    rw [hs s (List.mem_cons_self ..), ih (fun s' hs' => hs s' (List.mem_cons_of_mem _ hs'))]

/-- **C13 (naming mode)**: if every species name resolves to the same leaf under both namings and the
    file carries no TaxRange labels, the two loads agree on families, genes, species and genome gene
    lists -- only the recorded naming differs -/
theorem C13_naming_independent (T : STree) (nm1 nm2 : Naming) (inp : Input)
    (hs : ∀ s ∈ inp.species, resolveSpecies T nm1 s.name = resolveSpecies T nm2 s.name)
    (hl : noLabelL inp.groups = true) :
    (load T nm1 inp).map (fun H => (H.tops, H.genes, H.species, H.reg)) =
    (load T nm2 inp).map (fun H => (H.tops, H.genes, H.species, H.reg)) := by
  unfold load buildHam
  rw [declareSpecies_naming T nm1 nm2 _ inp.species [] hs, mapM_species_naming T nm1 nm2 inp.species hs]
  cases h1 : declareSpecies T nm2 (fun _ => true) inp.species [] with
  | error e => rfl
  | ok genes =>
    simp only [bind, Except.bind]
    rw [topElems_naming ⟨T, nm1, _⟩ ⟨T, nm2, _⟩ rfl none inp.groups hl [] {}]
    cases h2 : topElems ⟨T, nm2, genes.reverse.map fun g => (g.id, g.tx)⟩ none inp.groups [] {} with
    | error e => rfl
    | ok a =>
      simp only
      cases h3 : inp.species.mapM (fun s => (resolveSpecies T nm2 s.name).map fun p => (s.name, p)) with
      | error e => rfl
      | ok sp => rfl

/-- comparison results and tree profiles do not look at the naming at all -/
theorem analyses_naming (H1 H2 : Ham) (ht : H1.tree = H2.tree) (h1 : H1.tops = H2.tops) (h2 : H1.genes = H2.genes)
    (h3 : H1.reg = H2.reg) :
    (∀ a d, hogsMap H1 a d = hogsMap H2 a d) ∧ (∀ g1 g2, vertical H1 g1 g2 = vertical H2 g1 g2) ∧
    (∀ g1 g2, lateral H1 g1 g2 = lateral H2 g1 g2) ∧ profileFull H1 = profileFull H2 ∧
    (∀ top, profileHog H1 top = profileHog H2 top) := by
  have hsing : H1.singletons = H2.singletons := by simp only [Ham.singletons, h1, h2]
  have hlocs : H1.allLocs = H2.allLocs := by simp only [Ham.allLocs, h1, hsing]
  have hat : ∀ t, H1.nodesAt t = H2.nodesAt t := fun t => by simp only [Ham.nodesAt, hlocs]
  have hmap : ∀ a d, hogsMap H1 a d = hogsMap H2 a d := fun a d => by simp only [hogsMap, hat]
  have hsize : ∀ t, H1.genomeSize t = H2.genomeSize t := fun t => by
    simp only [Ham.genomeSize, ht, h2, h3]
  have hpf : ∀ t, profileFullAt H1 t = profileFullAt H2 t := fun t => by
    simp only [profileFullAt, hmap, hsize]
  refine ⟨hmap, ?_, ?_, ?_, ?_⟩
  · intro g1 g2
    simp only [vertical, hmap]
  · intro g1 g2
    simp only [lateral, hmap]
  · have : profileFullAt H1 = profileFullAt H2 := funext hpf
    simp only [profileFull, ht, this]
  · intro top
    simp only [profileHog, ht]

end Pyham
