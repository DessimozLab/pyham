/-
  The upward search `search_ancestor_hog_in_ancestral_genome`: what it returns (C06) and how it
  composes along a lineage (C07).
-/
import PyhamModel.Lemmas.Chain
namespace Pyham

def flagged (n : Node) : Bool := n.dup.isSome

theorem flagged_eq (n : Node) : flagged n = n.dup.isSome := rfl

theorem searchUp_skip (a : Taxon) (pre post : List Node) (f : Bool) (h : ∀ x ∈ pre, x.tx ≠ a) :
    searchUp a f (pre ++ post) = searchUp a (f || pre.any flagged) post := by
  induction pre generalizing f with
  | nil => simp
  | cons x pre ih =>
    have hx : x.tx ≠ a := h x (by simp)
    have hpre : ∀ y ∈ pre, y.tx ≠ a := fun y hy => h y (by simp [hy])
    simp only [List.cons_append, searchUp, beq_iff_eq, hx, if_false, List.any_cons]
    rw [ih _ hpre]
    simp [flagged, Bool.or_assoc]

theorem searchUp_hit (a : Taxon) (pre post : List Node) (x : Node) (f : Bool)
    (hpre : ∀ y ∈ pre, y.tx ≠ a) (hx : x.tx = a) :
    searchUp a f (pre ++ x :: post) = (some x, f || pre.any flagged) := by
  rw [searchUp_skip a pre (x :: post) f hpre]
  simp [searchUp, hx]

theorem searchUp_none (a : Taxon) (L : List Node) (f : Bool) (h : ∀ y ∈ L, y.tx ≠ a) :
    searchUp a f L = (none, f || L.any flagged) := by
  have := searchUp_skip a L [] f h
  simpa [searchUp] using this

/-- complete description of the loop: the nearest ancestor at `a`, and whether the node itself or
    anything strictly between arose by duplication -/
theorem searchUp_spec (a : Taxon) (L : List Node) (f : Bool) :
    (∃ pre x post, L = pre ++ x :: post ∧ (∀ y ∈ pre, y.tx ≠ a) ∧ x.tx = a ∧
        searchUp a f L = (some x, f || pre.any flagged)) ∨
    ((∀ y ∈ L, y.tx ≠ a) ∧ searchUp a f L = (none, f || L.any flagged)) := by
  cases h : L.find? (·.tx == a) with
  | none =>
    have hn : ∀ y ∈ L, y.tx ≠ a := fun y hy => by simpa using List.find?_eq_none.1 h y hy
    exact Or.inr ⟨hn, searchUp_none a L f hn⟩
  | some x =>
    obtain ⟨hx, pre, post, hL, hpre⟩ := List.find?_eq_some_iff_append.1 h
    have hpre' : ∀ y ∈ pre, y.tx ≠ a := fun y hy => by simpa using hpre y hy
    exact Or.inl ⟨pre, x, post, hL, hpre', beq_iff_eq.1 hx, hL ▸ searchUp_hit a pre post x f hpre' (beq_iff_eq.1 hx)⟩

/-- C06, first clause: a descendant gene is gained iff none of its ancestors lives in the
    ancestral genome -/
theorem search_none_iff (a : Taxon) (l : Loc) :
    (search a l).1 = none ↔ ∀ y ∈ l.anc, y.tx ≠ a := by
  unfold search
  rcases searchUp_spec a l.anc l.node.dup.isSome with ⟨pre, x, post, hL, _, hx, hs⟩ | ⟨hn, hs⟩
  · rw [hs]
    constructor
    · intro h
      simp at h
    · intro h
      exact absurd hx (h x (by simp [hL]))
  · rw [hs]
    exact ⟨fun _ => hn, fun _ => rfl⟩

/-- a successful search: the ancestor list splits at the first node at `a`, and the flag collects the node
    itself and what lies strictly between -/
theorem search_some_iff (a : Taxon) (l : Loc) (x : Node) (f : Bool) :
    search a l = (some x, f) ↔
      ∃ pre post, l.anc = pre ++ x :: post ∧ (∀ y ∈ pre, y.tx ≠ a) ∧ x.tx = a ∧
        f = (flagged l.node || pre.any flagged) := by
  unfold search
  constructor
  · intro hs
    rcases searchUp_spec a l.anc l.node.dup.isSome with ⟨pre, x', post, hL, hpre, hx, hs'⟩ | ⟨_, hs'⟩
    · rw [hs'] at hs
      obtain ⟨hxx, hf⟩ := Prod.mk.inj hs
      cases hxx
      exact ⟨pre, post, hL, hpre, hx, hf.symm⟩
    · rw [hs'] at hs
      exact nomatch hs
  · rintro ⟨pre, post, hL, hpre, hx, rfl⟩
    rw [hL]
    exact searchUp_hit a pre post x _ hpre hx

/-- C07: comparisons compose along a lineage (list level).
    If the nearest ancestor of the walk at level `b` is `y` (after `pre`), and the chain above
    `y` is `post`, then searching level `a` from the start equals searching level `a` from `y`,
    with flags composing by `||` -- provided no node at or below `y` sits at level `a`. -/
theorem searchUp_compose (a : Taxon) (pre post : List Node) (y : Node) (f : Bool)
    (hpre : ∀ z ∈ pre, z.tx ≠ a) (hy : y.tx ≠ a) :
    searchUp a f (pre ++ y :: post) =
      ((searchUp a (flagged y) post).1, (f || pre.any flagged) || (searchUp a (flagged y) post).2) := by
  have h1 : ∀ z ∈ pre ++ [y], z.tx ≠ a := by
    intro z hz
    simp at hz
    rcases hz with hz | rfl
    · exact hpre z hz
    · exact hy
  have : pre ++ y :: post = (pre ++ [y]) ++ post := by simp
  rw [this, searchUp_skip a (pre ++ [y]) post f h1]
  rcases searchUp_spec a post (flagged y) with ⟨p2, x, q2, hL, hp2, hx, hs⟩ | ⟨hn, hs⟩
  · rw [hs, hL, searchUp_hit a p2 q2 x _ hp2 hx]
    simp [Bool.or_assoc]
  · rw [hs, searchUp_none a post _ hn]
    simp [Bool.or_assoc]

end Pyham
