/-
  Counts along a spelled history.  Every number read off a history (`lineagesAt`, `dupWeight`, `extinctAt`,
  `reportedAt`, ...) is defined by one recursion scheme: a group contributes something of its own and the sum over
  its sub-branches, a duplication the sum over its copies, and a state may be handed down.  `HFold` records the
  scheme.  A count of that form does not depend on the spelling (`HFold.same`), and it agrees with a count over
  the nodes of whatever hierarchy realises the history as soon as the two obey matching equations (`NFold.agree`).
-/
import PyhamModel.Lemmas.RealisesLemmas
import PyhamModel.Lemmas.Spelling
namespace Pyham

/-- `here`: what a group contributes itself (it may look at its subs: `extinctAt` does); `sub s b`: the state a
    sub-branch receives, `b` saying it is a copy of a duplication; `ev`: what a duplication adds on its branch -/
structure HFold (σ : Type) where
  F : Taxon → σ → SL → Nat
  FS : Taxon → σ → List Sub → Nat
  FC : Taxon → σ → List SL → Nat
  here : Taxon → σ → List Sub → Nat
  down : Taxon → σ → σ
  sub : σ → Bool → σ
  ev : Taxon → σ → Nat → Nat
  grp : ∀ q s w hid lab subs, F q s (.grp w hid lab subs) = here q s subs + FS q (down q s) subs
  nil : ∀ q s, FS q s [] = 0
  one : ∀ q s i l r, FS q s (.one i l :: r) = F (i :: q) (sub s false) l + FS q s r
  dup : ∀ q s i pg cs r,
    FS q s (.dup i pg cs :: r) = ev (i :: q) s cs.length + FC (i :: q) (sub s true) cs + FS q s r
  ann : ∀ q s e r, FS q s (.ann e :: r) = FS q s r
  cnil : ∀ q s, FC q s [] = 0
  ccons : ∀ q s c cs, FC q s (c :: cs) = F q s c + FC q s cs

namespace HFold
variable {σ : Type} (φ : HFold σ)

def term (q : Taxon) (s : σ) : Sub → Nat
  | .one i l => φ.F (i :: q) (φ.sub s false) l
  | .dup i _ cs => φ.ev (i :: q) s cs.length + φ.FC (i :: q) (φ.sub s true) cs
  | .ann _ => 0

theorem FS_cons (q : Taxon) (s : σ) (x : Sub) (r : List Sub) : φ.FS q s (x :: r) = φ.term q s x + φ.FS q s r := by
  cases x with
  | one i l => exact φ.one q s i l r
  | dup i pg cs => exact φ.dup q s i pg cs r
  | ann e => rw [φ.ann, term, Nat.zero_add]

theorem same_all (hh : ∀ q s a b, SameSubs a b → φ.here q s a = φ.here q s b) :
    (∀ {l l' : SL}, SameL l l' → ∀ q s, φ.F q s l = φ.F q s l') ∧
    (∀ {a b : List Sub}, SameSubs a b → ∀ q s, φ.FS q s a = φ.FS q s b) ∧
    (∀ {a b : List SL}, SameCopies a b → a.length = b.length ∧ ∀ q s, φ.FC q s a = φ.FC q s b) := by
  apply SameL.induction
  case gene =>
    intro _ _ _ _
    rfl
  case grp =>
    intro _ _ _ _ _ _ subs subs' hs ih q s
    rw [φ.grp, φ.grp, hh q s _ _ hs, ih]
  case nil =>
    intro _ _
    rfl
  case ann_left =>
    intro _ _ _ _ ih q s
    rw [φ.ann]
    exact ih q s
  case ann_right =>
    intro _ _ _ _ ih q s
    rw [φ.ann]
    exact ih q s
  case one =>
    intro _ _ _ _ _ _ _ ihl ihs q s
    rw [φ.one, φ.one, ihl, ihs]
  case dup =>
    intro _ _ _ _ _ _ _ _ ihc ihs q s
    rw [φ.dup, φ.dup, ihc.1, ihc.2, ihs]
  case swap =>
    intro x y r q s
    rw [φ.FS_cons, φ.FS_cons, φ.FS_cons q s y, φ.FS_cons q s x]
    exact Nat.add_left_comm ..
  case trans =>
    intro _ _ _ _ _ ih1 ih2 q s
    exact (ih1 q s).trans (ih2 q s)
  case cnil => exact ⟨rfl, fun _ _ => rfl⟩
  case ccons =>
    intro _ _ _ _ _ _ ihc ihs
    refine ⟨congrArg (· + 1) ihs.1, fun q s => ?_⟩
    rw [φ.ccons, φ.ccons, ihc, ihs.2]
  case cswap =>
    intro x y r
    refine ⟨rfl, fun q s => ?_⟩
    rw [φ.ccons, φ.ccons, φ.ccons q s y, φ.ccons q s x]
    exact Nat.add_left_comm ..
  case ctrans =>
    intro _ _ _ _ _ ih1 ih2
    exact ⟨ih1.1.trans ih2.1, fun q s => (ih1.2 q s).trans (ih2.2 q s)⟩

theorem same (hh : ∀ q s a b, SameSubs a b → φ.here q s a = φ.here q s b) {l l' : SL} (h : SameL l l') :
    ∀ q s, φ.F q s l = φ.F q s l' :=
  (φ.same_all hh).1 h

theorem sameSubs (hh : ∀ q s a b, SameSubs a b → φ.here q s a = φ.here q s b) {a b : List Sub} (h : SameSubs a b) :
    ∀ q s, φ.FS q s a = φ.FS q s b :=
  (φ.same_all hh).2.1 h

theorem sameCopies (hh : ∀ q s a b, SameSubs a b → φ.here q s a = φ.here q s b) {a b : List SL}
    (h : SameCopies a b) : ∀ q s, φ.FC q s a = φ.FC q s b :=
  ((φ.same_all hh).2.2 h).2

end HFold

/-- A count over nodes obeying the equations that match `φ`.  `ev`: a node count has a term per node and none per
    duplication record, so what a duplication adds must be credited to the group (`here`) or to the copies (through
    the state).  This excludes `dupWeight` as it stands; `flaggedFold` and `deepFold` re-bracket it to fit. -/
structure NFold {σ : Type} (φ : HFold σ) where
  N : σ → Node → Nat
  NL : σ → List Node → Nat
  ok : Taxon → SL → Prop
  nil : ∀ s, NL s [] = 0
  cons : ∀ s k ks, NL s (k :: ks) = N (φ.sub s k.dup.isSome) k + NL s ks
  gene : ∀ s id q d loft, N s (.gene id q d loft) = φ.F q s (.gene id loft)
  hog : ∀ s q w hid lab subs info d kids dups, Realises q (.grp w hid lab subs) (.hog info q d kids dups) →
    ok q (.grp w hid lab subs) → N s (.hog info q d kids dups) = φ.here q s subs + NL (φ.down q s) kids
  ok_sub : ∀ q w hid lab subs i l, ok q (.grp w hid lab subs) → SubOf i l subs → ok (i :: q) l
  ev : ∀ q s n, φ.ev q s n = 0

namespace NFold
variable {σ : Type} {φ : HFold σ} (ν : NFold φ)

theorem NL_append (s : σ) (a b : List Node) : ν.NL s (a ++ b) = ν.NL s a + ν.NL s b := by
  induction a with
  | nil => rw [List.nil_append, ν.nil, Nat.zero_add]
  | cons k a ih => rw [List.cons_append, ν.cons, ν.cons, ih, Nat.add_assoc]

theorem NL_perm (s : σ) {a b : List Node} (h : a.Perm b) : ν.NL s a = ν.NL s b := by
  induction h with
  | nil => rfl
  | cons k _ ih => rw [ν.cons, ν.cons, ih]
  | swap k1 k2 l =>
    rw [ν.cons, ν.cons, ν.cons s k1, ν.cons s k2]
    exact Nat.add_left_comm ..
  | trans _ _ ih1 ih2 => exact ih1.trans ih2

theorem agree_cases : RCases (fun q l n => ∀ s, ν.ok q l → ν.N s n = φ.F q s l)
    (fun q subs plain evs => ∀ s, (∀ i l, SubOf i l subs → ν.ok (i :: q) l) →
      ν.NL s plain + ν.NL s (evs.flatMap (·.2)) = φ.FS q s subs)
    (fun q cs ks => ∀ s s', (∀ k ∈ ks, φ.sub s k.dup.isSome = s') → (∀ c ∈ cs, ν.ok q c) →
      ν.NL s ks = φ.FC q s' cs) where
  gene q id loft d s _ := ν.gene s id q d loft
  grp q w hid lab subs info d kids dups plain evs hk hd hn hs ih s ho := by
    rw [ν.hog s q w hid lab subs info d kids dups ⟨info, d, kids, dups, rfl, plain, evs, hk, hd, hn, hs⟩ ho, φ.grp,
      ν.NL_perm _ hk, ν.NL_append, ih _ (ν.ok_sub q w hid lab subs · · ho)]
  nil q s _ := by rw [List.flatMap_nil, ν.nil, φ.nil]
  one q i l r k plain evs hkd _ ihk _ ih s ho := by
    have hf : k.dup.isSome = false := congrArg Option.isSome hkd
    rw [ν.cons, hf, ihk _ (ho i l (Or.inl (List.mem_cons_self ..))), φ.one, ← ih s (fun j m hm => ho j m hm.tail),
      Nat.add_assoc]
  dup q i pg cs r rec ks plain evs _ _ _ hfl _ ihc _ ih s ho := by
    rw [List.flatMap_cons, ν.NL_append, φ.dup, ν.ev, Nat.zero_add,
      ihc s (φ.sub s true) (fun k hk => congrArg (fun o => φ.sub s o.isSome) (hfl k hk))
        (fun c hc => ho i c (Or.inr ⟨pg, cs, List.mem_cons_self .., hc⟩)),
      ← ih s (fun j m hm => ho j m hm.tail)]
    exact Nat.add_left_comm ..
  ann q e r plain evs _ ih s ho := by
    rw [φ.ann]
    exact ih s (fun j m hm => ho j m hm.tail)
  cnil q s s' _ _ := by rw [ν.nil, φ.cnil]
  ccons q c cs k ks _ ihk _ ih s s' hfl ho := by
    rw [ν.cons, hfl k (List.mem_cons_self ..), φ.ccons, ihk _ (ho c (List.mem_cons_self ..)),
      ih s s' (fun x hx => hfl x (List.mem_cons_of_mem _ hx)) (fun x hx => ho x (List.mem_cons_of_mem _ hx))]

theorem agree (q : Taxon) (s : σ) (l : SL) (n : Node) (h : Realises q l n) (ho : ν.ok q l) : ν.N s n = φ.F q s l :=
  ν.agree_cases.all.1 q l n h s ho

theorem agreeSubs (q : Taxon) (s : σ) (subs : List Sub) (plain : List Node) (evs : List (DupRec × List Node))
    (h : RealisesSubs q subs plain evs) (ho : ∀ i l, SubOf i l subs → ν.ok (i :: q) l) :
    ν.NL s plain + ν.NL s (evs.flatMap (·.2)) = φ.FS q s subs :=
  ν.agree_cases.all.2.1 q subs plain evs h s ho

theorem agreeCopies (q : Taxon) (s s' : σ) (cs : List SL) (ks : List Node) (h : RealisesCopies q cs ks)
    (hfl : ∀ k ∈ ks, φ.sub s k.dup.isSome = s') (ho : ∀ c ∈ cs, ν.ok q c) : ν.NL s ks = φ.FC q s' cs :=
  ν.agree_cases.all.2.2 q cs ks h s s' hfl ho

end NFold

end Pyham
