/-
  What a step of the loader leaves alone in the parser state: `FrA`, `FrC`, and (the lemmas `keep_f`, one per
  function `f`) that `setMRCA`, chaining a child up, the repair loops and the duplication steps keep `FrC`.
-/
import PyhamModel.Lemmas.LoaderEqns
namespace Pyham

theorem modDup_dids (ps : PS) (d : Nat) (f : DupBuild → DupBuild) (hf : ∀ b, (f b).did = b.did) :
    (ps.modDup d f).dstore.map (·.did) = ps.dstore.map (·.did) := by
  simp only [PS.modDup, List.map_map]
  apply List.map_congr_left
  intro b _
  simp only [Function.comp]
  split
  · exact hf b
  · rfl

/-- `reg` is deliberately unconstrained: the log grows -/
structure FrA (ps ps' : PS) : Prop where
  pstack : ps'.pstack = ps.pstack
  inpg : ps'.inPG = ps.inPG
  cur : ps'.cur = ps.cur
  dstore : ps'.dstore = ps.dstore
  next : ps.next ≤ ps'.next

/-- as `FrA`, but stored duplications may be rewritten (the same ones are stored) -/
structure FrC (ps ps' : PS) : Prop where
  pstack : ps'.pstack = ps.pstack
  inpg : ps'.inPG = ps.inPG
  cur : ps'.cur = ps.cur
  next : ps.next ≤ ps'.next
  dids : ps'.dstore.map (·.did) = ps.dstore.map (·.did)

namespace FrA

theorem refl (ps : PS) : FrA ps ps := ⟨rfl, rfl, rfl, rfl, Nat.le_refl _⟩

theorem trans {a b c : PS} (h1 : FrA a b) (h2 : FrA b c) : FrA a c :=
  ⟨h2.pstack.trans h1.pstack, h2.inpg.trans h1.inpg, h2.cur.trans h1.cur, h2.dstore.trans h1.dstore,
    Nat.le_trans h1.next h2.next⟩

theorem getDup {ps ps' : PS} (h : FrA ps ps') (d : Nat) : ps'.getDup d = ps.getDup d := by
  unfold PS.getDup
  rw [h.dstore]

theorem toFrC {ps ps' : PS} (h : FrA ps ps') : FrC ps ps' :=
  ⟨h.pstack, h.inpg, h.cur, h.next, by rw [h.dstore]⟩

end FrA

namespace FrC

theorem refl (ps : PS) : FrC ps ps := ⟨rfl, rfl, rfl, Nat.le_refl _, rfl⟩

theorem trans {a b c : PS} (h1 : FrC a b) (h2 : FrC b c) : FrC a c :=
  ⟨h2.pstack.trans h1.pstack, h2.inpg.trans h1.inpg, h2.cur.trans h1.cur, Nat.le_trans h1.next h2.next,
    h2.dids.trans h1.dids⟩

theorem modDup (ps : PS) (d : Nat) (f : DupBuild → DupBuild) (hf : ∀ b, (f b).did = b.did) :
    FrC ps (ps.modDup d f) := ⟨rfl, rfl, rfl, Nat.le_refl _, modDup_dids ps d f hf⟩

theorem addMember (ps : PS) (d : Nat) (k : Key) : FrC ps (ps.addMember d k) :=
  modDup ps d _ fun _ => rfl

theorem register (ps : PS) (t : Taxon) (k : Key) : FrC ps (ps.register t k) :=
  ⟨rfl, rfl, rfl, Nat.le_refl _, rfl⟩

theorem bump (ps : PS) : FrC ps { ps with next := ps.next + 1 } :=
  ⟨rfl, rfl, rfl, Nat.le_succ _, rfl⟩

theorem bump_register (ps : PS) (t : Taxon) (k : Key) : FrC ps (PS.register { ps with next := ps.next + 1 } t k) :=
  ⟨rfl, rfl, rfl, Nat.le_succ _, rfl⟩

end FrC

theorem FrC.newMember (len : Nat) (k : Key) (ps : PS) : FrC ps (newMember len k ps).2 := by
  unfold Pyham.newMember
  dsimp only
  split
  · exact FrC.addMember ps _ _
  · exact FrC.refl ps

theorem FrC.openOg (len : Nat) (hid og : Option String) (ps : PS) : FrC ps (openOg len hid og ps).2 :=
  (FrC.bump ps).trans (FrC.newMember len _ _)

open Except

theorem keep_setMRCA (kids : List Node) (ps : PS) (d : Nat) : (setMRCA kids ps d).All (FrC ps) := by
  rw [setMRCA]
  split
  · trivial
  · split
    · trivial
    · split
      · trivial
      · split
        · trivial
        · exact FrC.modDup _ _ _ fun _ => rfl
      · split
        · trivial
        · exact FrC.modDup _ _ _ fun _ => rfl

theorem keep_addMissing (hid : Option String) (ts : List Taxon) (cur : Node) (ps : PS) :
    (addMissing hid cur ts ps).All fun r => FrC ps r.2 := by
  induction ts generalizing cur ps with
  | nil => exact FrC.refl ps
  | cons t ts ih =>
    rw [addMissing]
    split
    · trivial
    · exact (ih _ _).mono fun _ => (FrC.bump_register ps _ _).trans

theorem keep_genericPass (hid : Option String) (level : Taxon) (cs kids : List Node) (ps : PS) :
    (genericPass hid level cs kids ps).All fun r => FrC ps r.2 := by
  induction cs generalizing kids ps with
  | nil => exact FrC.refl ps
  | cons c cs ih =>
    rw [genericPass]
    apply (keep_addMissing ..).bind
    intro r hr
    exact (ih _ r.2).mono fun _ => hr.trans

theorem keep_rehomeDirect (hid : Option String) (level : Taxon) (d : Nat) (cs kids : List Node)
    (mem : List Key) (ps : PS) : (rehomeDirect hid level d cs kids mem ps).All fun r => FrC ps r.2.2 := by
  induction cs generalizing kids mem ps with
  | nil => exact FrC.refl ps
  | cons c cs ih =>
    rw [rehomeDirect]
    apply (keep_addMissing ..).bind
    intro r hr
    dsimp only
    split
    · trivial
    · exact (ih _ _ r.2).mono fun _ => hr.trans

theorem keep_rehomeUnder (hid : Option String) (mrcaTx : Taxon) (cs kids mk : List Node) (ps : PS) :
    (rehomeUnder hid mrcaTx cs kids mk ps).All fun r => FrC ps r.2.2 := by
  induction cs generalizing kids mk ps with
  | nil => exact FrC.refl ps
  | cons c cs ih =>
    rw [rehomeUnder]
    apply (keep_addMissing ..).bind
    intro r hr
    exact (ih _ _ r.2).mono fun _ => hr.trans

theorem keep_dupStep (hid : Option String) (level : Taxon) (st : CloseSt) (d : Nat) :
    (dupStep hid level st d).All fun st' => FrC st.ps st'.ps := by
  rw [dupStep_eq]
  split
  · split
    · split
      · trivial
      · split
        · unfold dupUnder
          apply (keep_rehomeUnder ..).bind
          intro r hr
          exact ((FrC.bump_register _ _ _).trans hr).trans (FrC.modDup _ _ _ fun _ => rfl)
        · unfold dupDirect
          apply (keep_rehomeDirect ..).bind
          intro r hr
          exact hr.trans (FrC.modDup _ _ _ fun _ => rfl)
    · trivial
  · trivial

theorem keep_dupSteps (hid : Option String) (level : Taxon) (ds : List Nat) (st : CloseSt) :
    (dupSteps hid level ds st).All fun st' => FrC st.ps st'.ps := by
  induction ds generalizing st with
  | nil => exact FrC.refl _
  | cons d ds ih =>
    rw [dupSteps]
    apply (keep_dupStep ..).bind
    intro st1 h1
    exact (ih st1).mono fun _ => h1.trans

end Pyham
