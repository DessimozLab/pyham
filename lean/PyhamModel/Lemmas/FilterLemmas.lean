/-
  C11: a filtered load is the full load of the file projected onto the selected families; which families the first
  pass selects (`filterTops_ok`, `filterTops_selects`).
-/
import PyhamModel.Lemmas.LoaderEqns
namespace Pyham

def isOgWithId : Elem → Bool
  | .og (some _) _ _ => true
  | _ => false

def topId : Elem → Option String
  | .og hid _ _ => hid
  | _ => none

@[simp] theorem topId_og (h o : Option String) (its : List Elem) : topId (.og h o its) = h := rfl

/-- families kept by a list of top-level ids -/
def keepFamilies (ids : List String) (es : List Elem) : List Elem :=
  es.filter fun e => match topId e with | some i => ids.contains i | none => false

theorem eq_og_of_isOgWithId {e : Elem} (h : isOgWithId e = true) : ∃ i og its, e = .og (some i) og its := by
  cases e with
  | og hid og its =>
    cases hid with
    | some i => exact ⟨i, og, its, rfl⟩
    | none => cases h
  | _ => cases h

theorem keepFamilies_cons_og (ids : List String) (i : String) (og : Option String) (its es : List Elem) :
    keepFamilies ids (.og (some i) og its :: es) =
      if ids.contains i = true then .og (some i) og its :: keepFamilies ids es else keepFamilies ids es :=
  List.filter_cons

/-- the building pass in skip mode: a skipped family leaves no trace in the parser, so reading the
    whole group section with a filter is reading the kept families without one -/
theorem topElems_filter (env : Env) (ids : List String) (es : List Elem) (h : es.all isOgWithId = true)
    (tops : List Node) (ps : PS) :
    topElems env (some ids) es tops ps = topElems env none (keepFamilies ids es) tops ps := by
  induction es generalizing tops ps with
  | nil => rfl
  | cons e es ih =>
    simp only [List.all_cons, Bool.and_eq_true] at h
    obtain ⟨he, hes⟩ := h
    obtain ⟨i, og, its, rfl⟩ := eq_og_of_isOgWithId he
    rw [topElems_cons, topElem_og, keepFamilies_cons_og, kept]
    cases ids.contains i with
    | false => exact ih hes tops ps
    | true =>
      rw [if_pos rfl, topElems_cons]
      exact congrArg _ (funext fun r => ih hes r.1 r.2)

theorem declareSpecies_filter (T : STree) (nm : Naming) (keep : String → Bool) (sp : List Species)
    (acc : List GeneRec) :
    declareSpecies T nm keep sp acc = declareSpecies T nm (fun _ => true)
      (sp.map fun s => { s with genes := s.genes.filter fun g => keep g.id }) acc := by
  induction sp generalizing acc with
  | nil => rfl
  | cons s ss ih => simp [declareSpecies, ih]

theorem mapM_species_filter (T : STree) (nm : Naming) (keep : String → Bool) (sp : List Species) :
    (sp.map fun s => ({ s with genes := s.genes.filter fun g => keep g.id } : Species)).mapM
        (fun s => (resolveSpecies T nm s.name).map fun p => (s.name, p)) =
      sp.mapM (fun s => (resolveSpecies T nm s.name).map fun p => (s.name, p)) := by
  induction sp with
  | nil => rfl
  | cons s ss ih => simp [List.mapM_cons, ih]

/-- the projected file: only the genes kept by `keep`, only the families kept by `ids` -/
def projectInput (inp : Input) (keep : String → Bool) (ids : List String) : Input :=
  { species := inp.species.map fun s => { s with genes := s.genes.filter fun g => keep g.id },
    groups := keepFamilies ids inp.groups }

/-- **C11**: the filtered load of a file equals the unfiltered load of the projected file (so
    unselected families and their genes are absent from everything, and the position of a selected
    family among skipped ones cannot matter) -/
theorem C11_filtered_is_projection (T : STree) (nm : Naming) (inp : Input) (keep : String → Bool) (ids : List String)
    (h : inp.groups.all isOgWithId = true) :
    buildHam T nm inp keep (some ids) = buildHam T nm (projectInput inp keep ids) (fun _ => true) none := by
  simp only [buildHam, projectInput, declareSpecies_filter T nm keep inp.species, mapM_species_filter,
    topElems_filter _ ids inp.groups h]


theorem filterTops_cons_og (f : Filter) (i : String) (og : Option String) (its es : List Elem)
    (g h : List String) :
    filterTops f (.og (some i) og its :: es) (g, h) =
      filterTops f es
        (if (f.hogIds.contains i || (refsOfL its).any g.contains) = true then g ++ refsOfL its else g,
         if (f.hogIds.contains i || (refsOfL its).any g.contains) = true then h ++ [i] else h) := by
  rw [filterTops_cons, filterTop_og]
  split <;> rfl

theorem mem_ite_append {α} {p : Prop} [Decidable p] {l a : List α} {x : α} :
    x ∈ (if p then l ++ a else l) ↔ x ∈ l ∨ (p ∧ x ∈ a) := by
  split <;> simp [*]

theorem filterTops_ok (f : Filter) (es : List Elem) (h : es.all isOgWithId = true) (acc : List String × List String) :
    ∃ r, filterTops f es acc = .ok r := by
  induction es generalizing acc with
  | nil => exact ⟨acc, rfl⟩
  | cons e es ih =>
    simp only [List.all_cons, Bool.and_eq_true] at h
    obtain ⟨he, hes⟩ := h
    obtain ⟨i, og, its, rfl⟩ := eq_og_of_isOgWithId he
    rw [filterTops_cons_og]
    exact ih hes _

/-- the first pass selects family `e` under the id `i`, given the genes `g` selected so far -/
def selects (f : Filter) (g : List String) (e : Elem) (i : String) : Prop :=
  topId e = some i ∧ (f.hogIds.contains i = true ∨ ∃ r ∈ refsOf e, r ∈ g)

theorem selects_og (f : Filter) (g : List String) (i j : String) (og : Option String) (its : List Elem) :
    selects f g (.og (some i) og its) j ↔
      (f.hogIds.contains i || (refsOfL its).any g.contains) = true ∧ j = i := by
  unfold selects
  simp only [topId_og, refsOf, Option.some.injEq, Bool.or_eq_true, List.any_eq_true, List.contains_iff_mem]
  constructor
  · rintro ⟨rfl, h⟩
    exact ⟨h, rfl⟩
  · rintro ⟨h, rfl⟩
    exact ⟨rfl, h⟩

theorem filterTops_selects (f : Filter) (es : List Elem) (h : es.all isOgWithId = true)
    (hdis : (es.map refsOf).Pairwise (fun a b => ∀ r ∈ a, r ∉ b)) (g0 h0 : List String) :
    ∃ gids hids, filterTops f es (g0, h0) = .ok (gids, hids) ∧
      (∀ i, i ∈ hids ↔ i ∈ h0 ∨ ∃ e ∈ es, selects f g0 e i) ∧
      (∀ r, r ∈ gids ↔ r ∈ g0 ∨ ∃ e ∈ es, r ∈ refsOf e ∧ ∃ i, selects f g0 e i) := by
  induction es generalizing g0 h0 with
  | nil => exact ⟨g0, h0, rfl, by simp, by simp⟩
  | cons e es ih =>
    simp only [List.all_cons, Bool.and_eq_true] at h
    obtain ⟨he, hes⟩ := h
    obtain ⟨i, og, its, rfl⟩ := eq_og_of_isOgWithId he
    simp only [List.map_cons, List.pairwise_cons, refsOf] at hdis
    obtain ⟨hd1, hd2⟩ := hdis
    rw [filterTops_cons_og]
    obtain ⟨gids, hids, heq, hh, hg⟩ := ih hes hd2 _ _
    -- a later family shares no gene with this one, so adding this one's genes does not change whether it is selected
    have hlater : ∀ e' ∈ es, ∀ j,
        selects f (if (f.hogIds.contains i || (refsOfL its).any g0.contains) = true then g0 ++ refsOfL its else g0)
          e' j ↔ selects f g0 e' j := by
      intro e' he' j
      apply and_congr_right
      intro _
      apply or_congr_right
      apply exists_congr
      intro r
      apply and_congr_right
      intro hr
      rw [mem_ite_append]
      exact or_iff_left fun hin => hd1 (refsOf e') (List.mem_map_of_mem he') r hin.2 hr
    refine ⟨gids, hids, heq, ?_, ?_⟩
    · intro j
      rw [hh, mem_ite_append]
      simp only [List.mem_cons, List.not_mem_nil, or_false, exists_eq_or_imp, selects_og, or_assoc]
      exact or_congr_right (or_congr_right (exists_congr fun e' => and_congr_right fun he' => hlater e' he' j))
    · intro r
      rw [hg, mem_ite_append]
      simp only [List.mem_cons, exists_eq_or_imp, refsOf, selects_og, exists_and_left, exists_eq, and_true,
        or_assoc]
      apply or_congr_right
      apply or_congr and_comm
      exact exists_congr fun e' => and_congr_right fun he' => and_congr_right fun _ =>
        exists_congr fun j => hlater e' he' j

/-- first pass: which families are selected.  When no gene is referenced by two families, a family is
    selected iff its id is named or it references a gene named by a gene selector (`filterTops_selects` with
    `selects` written out) -/
theorem filterTops_spec (f : Filter) (es : List Elem) (h : es.all isOgWithId = true)
    (hdis : (es.map refsOf).Pairwise (fun a b => ∀ r ∈ a, r ∉ b)) (g0 h0 : List String) :
    ∃ gids hids, filterTops f es (g0, h0) = .ok (gids, hids) ∧
      (∀ i, i ∈ hids ↔ i ∈ h0 ∨ ∃ e ∈ es, topId e = some i ∧
          (f.hogIds.contains i = true ∨ ∃ r ∈ refsOf e, r ∈ g0)) ∧
      (∀ r, r ∈ gids ↔ r ∈ g0 ∨ ∃ e ∈ es, r ∈ refsOf e ∧ ∃ i, topId e = some i ∧
          (f.hogIds.contains i = true ∨ ∃ r' ∈ refsOf e, r' ∈ g0)) :=
  filterTops_selects f es h hdis g0 h0

/-- with the filter of the first pass: `loadFiltered` is the load of the projected file -/
theorem C11_loadFiltered (T : STree) (nm : Naming) (inp : Input) (f : Filter) (h : inp.groups.all isOgWithId = true) :
    ∃ gids hids, filterTops f inp.groups (filterGenes f inp.species, []) = .ok (gids, hids) ∧
      loadFiltered T nm inp f = buildHam T nm (projectInput inp gids.contains hids) (fun _ => true) none := by
  obtain ⟨⟨gids, hids⟩, heq⟩ := filterTops_ok f inp.groups h (filterGenes f inp.species, [])
  refine ⟨gids, hids, heq, ?_⟩
  rw [← C11_filtered_is_projection T nm inp gids.contains hids h]
  simp only [loadFiltered, heq]
  rfl

end Pyham
