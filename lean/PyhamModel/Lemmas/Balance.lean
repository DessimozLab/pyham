/-
  C09: the whole-dataset tree profile balances on every branch.
-/
import PyhamModel.Lemmas.Partition
namespace Pyham

theorem countDup_eq (d : List (Node × List Node)) (h : ∀ e ∈ d, e.2 ≠ []) :
    countDup d + d.length = (d.map (·.2.length)).sum := by
  induction d with
  | nil => simp [countDup]
  | cons a d ih =>
    have ih := ih (fun e he => h e (List.mem_cons_of_mem _ he))
    have ha : a.2.length ≠ 0 := by
      have := h a (List.mem_cons_self)
      intro h0
      exact this (List.length_eq_zero_iff.mp h0)
    simp only [countDup, List.map_cons, List.sum_cons, List.length_cons] at ih ⊢
    omega

theorem ndup_add_length (H : Ham) (a d : Taxon) :
    (hogsMap H a d).ndup + (hogsMap H a d).dupl.length = ((hogsMap H a d).dupl.map (·.2.length)).sum := by
  rw [hogsMap_ndup, hogsMap_dupl]
  exact countDup_eq _ (clusters_dupl_nonempty _)

/-- **C09** at the root: the profile carries the genome size and no event numbers -/
theorem C09_root (H : Ham) :
    profileFullAt H [] = { tx := [], nbr := H.genomeSize [] } := by
  rfl

theorem profileFullAt_nbr (H : Ham) (t : Taxon) : (profileFullAt H t).nbr = H.genomeSize t := by
  cases t <;> rfl

theorem profileFullAt_cons (H : Ham) (i : Nat) (u : Taxon) :
    profileFullAt H (i :: u) =
      { tx := i :: u, nbr := H.genomeSize (i :: u),
        dupl := some ((hogsMap H u (i :: u)).dupl.map (·.2.length)).sum,
        lost := some (hogsMap H u (i :: u)).loss.length, gain := some (hogsMap H u (i :: u)).gain.length,
        retained := some (hogsMap H u (i :: u)).retained.length, duplication := some (hogsMap H u (i :: u)).ndup,
        nbrEvents := some ((hogsMap H u (i :: u)).ndup + (hogsMap H u (i :: u)).loss.length +
          (hogsMap H u (i :: u)).gain.length) } :=
  rfl

/-- **C09**: on every branch  genes(child) = retained + duplicated + gained  and
    genes(child) + lost = genes(parent) + gained + duplication events -/
theorem C09_balance (H : Ham) (hw : H.WFc) (hs : H.sizesExact = true) (i : Nat) (u : Taxon)
    (ht : (i :: u) ∈ H.tree.allTaxa) (hu : u ∈ H.tree.allTaxa) :
    ∃ nd lost gain ret dpl,
      profileFullAt H (i :: u) =
        { tx := i :: u, nbr := H.genomeSize (i :: u), dupl := some nd, lost := some lost, gain := some gain,
          retained := some ret, duplication := some dpl, nbrEvents := some (dpl + lost + gain) } ∧
      H.genomeSize (i :: u) = ret + nd + gain ∧
      H.genomeSize (i :: u) + lost = H.genomeSize u + gain + dpl ∧
      (profileFullAt H u).nbr = H.genomeSize u := by
  simp only [Ham.sizesExact, List.all_eq_true, beq_iff_eq] at hs
  have h1 := C05_descendant_size H hw u (i :: u)
  have h2 := C05_ancestor_size H hw u (i :: u)
  have h3 := ndup_add_length H u (i :: u)
  refine ⟨_, _, _, _, _, profileFullAt_cons H i u, ?_, ?_, profileFullAt_nbr H u⟩
  · rw [hs _ ht]
    omega
  · rw [hs _ ht, hs _ hu]
    omega

/-- **C09**: the profile has one entry for every taxon of the tree, in tree order -/
theorem C09_total (H : Ham) : (profileFull H).map (·.tx) = H.tree.allTaxa := by
  unfold profileFull
  rw [List.map_map]
  refine (List.map_congr_left (g := id) fun t _ => ?_).trans (List.map_id _)
  cases t <;> rfl

end Pyham
