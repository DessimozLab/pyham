/-
  C08: lateral comparison = the vertical comparisons against the common ancestor; argument order is
  irrelevant; vertical comparison refuses genomes that are not on one lineage with TypeError.
-/
import PyhamModel.Model.Mapper
import PyhamModel.Lemmas.TreeLemmas
namespace Pyham

theorem oldest_of_suffix (a d : Taxon) (h : a <:+ d) : oldest a d = .ok (a, d) := by
  have hm : mrca2 a d = a := (mrca2_eq_left_iff a d).mpr h
  simp [oldest, hm]

theorem oldest_not_lineage (g1 g2 : Taxon) (h1 : ¬ g1 <:+ g2) (h2 : ¬ g2 <:+ g1) : oldest g1 g2 = .error .type := by
  have e1 : ¬ g1 = mrca2 g1 g2 := fun e => h1 ((mrca2_eq_left_iff g1 g2).mp e.symm)
  have e2 : ¬ g2 = mrca2 g1 g2 := fun e => h2 (by
    rw [mrca2_comm] at e; exact (mrca2_eq_left_iff g2 g1).mp e.symm)
  simp [oldest, e1, e2]

/-- of two different genomes at most one is the common ancestor -/
theorem oldest_comm (g1 g2 : Taxon) (hne : g1 ≠ g2) : oldest g1 g2 = oldest g2 g1 := by
  simp only [oldest, mrca2_comm g2 g1]
  by_cases h1 : g1 = mrca2 g1 g2
  · have b1 : (g1 == mrca2 g1 g2) = true := beq_iff_eq.2 h1
    have b2 : (g2 == mrca2 g1 g2) = false := beq_eq_false_iff_ne.2 fun h2 => hne (h1.trans h2.symm)
    simp only [b1, b2, if_true, Bool.false_eq_true, if_false]
  · have b1 : (g1 == mrca2 g1 g2) = false := beq_eq_false_iff_ne.2 h1
    simp only [b1, Bool.false_eq_true, if_false]

theorem vertical_of_suffix (H : Ham) (a d : Taxon) (h : a <:+ d) (hne : a ≠ d) :
    vertical H a d = .ok (hogsMap H a d) := by
  rw [vertical, if_neg (fun e => hne (beq_iff_eq.1 e)), oldest_of_suffix a d h]
  rfl

/-- **C08**: genomes not on one lineage are refused with TypeError -/
theorem C08_vertical_not_lineage (H : Ham) (g1 g2 : Taxon) (h1 : ¬ g1 <:+ g2) (h2 : ¬ g2 <:+ g1) :
    vertical H g1 g2 = .error .type := by
  have hne : ¬ g1 = g2 := fun e => h1 (e ▸ List.suffix_refl _)
  rw [vertical, if_neg (fun e => hne (beq_iff_eq.1 e)), oldest_not_lineage g1 g2 h1 h2]
  rfl

/-- **C08**: vertical comparison is independent of argument order -/
theorem C08_vertical_symm (H : Ham) (g1 g2 : Taxon) : vertical H g1 g2 = vertical H g2 g1 := by
  by_cases he : g1 = g2
  · subst he
    rfl
  · have he' : ¬ g2 = g1 := fun e => he e.symm
    simp only [vertical, oldest_comm g1 g2 he, beq_iff_eq, he, he', if_false]

/-- **C08**: on a lineage it is the map between ancestor and descendant, whichever way it is asked -/
theorem C08_vertical_lineage (H : Ham) (a d : Taxon) (h : a <:+ d) (hne : a ≠ d) :
    vertical H a d = .ok (hogsMap H a d) ∧ vertical H d a = .ok (hogsMap H a d) :=
  ⟨vertical_of_suffix H a d h hne, C08_vertical_symm H a d ▸ vertical_of_suffix H a d h hne⟩

theorem lateral_eq (H : Ham) (g1 g2 : Taxon) (hne : g1 ≠ g2) :
    lateral H g1 g2 = .ok (LMap.mk (mrca2 g1 g2)
      (([g1, g2].filter (· != mrca2 g1 g2)).map fun g => (g, hogsMap H (mrca2 g1 g2) g))) := by
  simp [lateral, hne]

theorem lateral_ne (H : Ham) (g1 g2 : Taxon) (ml : LMap) (h : lateral H g1 g2 = .ok ml) : g1 ≠ g2 := by
  intro e
  subst e
  simp [lateral] at h

theorem lateral_total (H : Ham) (g1 g2 : Taxon) (hne : g1 ≠ g2) : ∃ ml, lateral H g1 g2 = .ok ml :=
  ⟨_, lateral_eq H g1 g2 hne⟩

/-- **C08**: comparing two genomes laterally takes their most recent common ancestor as reference and
    reports, for each compared genome other than that ancestor, exactly the vertical comparison
    against the ancestor -/
theorem C08_lateral (H : Ham) (g1 g2 : Taxon) (ml : LMap) (h : lateral H g1 g2 = .ok ml) :
    ml.anc = mrca2 g1 g2 ∧ ml.anc <:+ g1 ∧ ml.anc <:+ g2 ∧
    (∀ e ∈ ml.maps, e.1 ≠ ml.anc ∧ (e.1 = g1 ∨ e.1 = g2) ∧ e.2 = hogsMap H ml.anc e.1 ∧
        vertical H ml.anc e.1 = .ok e.2) ∧
    (∀ g, (g = g1 ∨ g = g2) → g ≠ ml.anc → ∃ e ∈ ml.maps, e.1 = g) := by
  have hne := lateral_ne H g1 g2 ml h
  rw [lateral_eq H g1 g2 hne] at h
  have h' := Except.ok.inj h
  subst h'
  refine ⟨rfl, mrca2_suffix_left _ _, mrca2_suffix_right _ _, ?_, ?_⟩
  · intro e he
    simp only [List.mem_map, List.mem_filter, bne_iff_ne, List.mem_cons, List.not_mem_nil, or_false] at he
    obtain ⟨g, ⟨hg, hga⟩, rfl⟩ := he
    refine ⟨hga, hg, rfl, ?_⟩
    have hs : mrca2 g1 g2 <:+ g := by
      rcases hg with rfl | rfl
      · exact mrca2_suffix_left _ _
      · exact mrca2_suffix_right _ _
    exact vertical_of_suffix H _ _ hs (fun e => hga e.symm)
  · intro g hg hga
    refine ⟨(g, hogsMap H (mrca2 g1 g2) g), ?_, rfl⟩
    simp only [List.mem_map, List.mem_filter, bne_iff_ne, List.mem_cons, List.not_mem_nil, or_false]
    exact ⟨g, ⟨hg, hga⟩, rfl⟩

/-- **C08**: the outcome does not depend on argument order -/
theorem C08_lateral_symm (H : Ham) (g1 g2 : Taxon) (m1 m2 : LMap)
    (h1 : lateral H g1 g2 = .ok m1) (h2 : lateral H g2 g1 = .ok m2) :
    m1.anc = m2.anc ∧ m1.maps.Perm m2.maps := by
  have hne := lateral_ne H g1 g2 m1 h1
  rw [lateral_eq H g1 g2 hne] at h1
  rw [lateral_eq H g2 g1 (fun e => hne e.symm), mrca2_comm g2 g1] at h2
  have e1 := Except.ok.inj h1
  have e2 := Except.ok.inj h2
  subst e1; subst e2
  exact ⟨rfl, ((List.Perm.swap g2 g1 []).filter _).map _⟩

end Pyham
