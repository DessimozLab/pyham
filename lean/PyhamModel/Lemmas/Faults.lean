/-
  C20: species that do not resolve, dangling gene references and empty groups are rejected wherever they occur.
  The loader is a chain of `Except` binds that visits every element in document order, so whatever
  precedes a fault either already failed or reaches it.
-/
import PyhamModel.Lemmas.LoaderEqns
namespace Pyham
open Except (bind_ok bind_error_left bind_error_right)

mutual
/-- the element contains, at any depth, a geneRef to an undeclared gene, an empty orthologGroup or
    an empty paralogGroup -/
def Elem.faulty (declared : String → Bool) : Elem → Bool
  | .ref id _ => !declared id
  | .score _ _ => false
  | .prop _ _ => false
  | .og _ _ its => its.isEmpty || faultyL declared its
  | .pg _ its => its.isEmpty || faultyL declared its
def faultyL (declared : String → Bool) : List Elem → Bool
  | [] => false
  | e :: es => e.faulty declared || faultyL declared es
end

def Env.declared (env : Env) (id : String) : Bool := (env.lookupGene id).isSome

theorem inferLevel_nil (env : Env) (hb : HogBuild) (h : hb.kids = []) :
    inferLevel env hb = .error .value := by
  simp [inferLevel, h, dedup]

theorem closeOg_nil (env : Env) (top : Bool) (hb : HogBuild) (ps : PS) (h : hb.kids = []) :
    ∃ err, closeOg env top hb ps = .error err := by
  refine ⟨.value, ?_⟩
  simp [closeOg, inferLevel_nil env hb h, bind, Except.bind]

/-- closing a paralogGroup to whose event nothing was added since it was opened fails -/
theorem pgClose_unchanged (kids : List Node) (len did size : Nat) (ps : PS)
    (hs : ∀ b, ps.getDup did = some b → b.members.length = size) :
    ∃ err, pgClose kids { ps with pstack := { depth := len, did := did, size := size } :: ps.pstack,
                                  inPG := some len, cur := some did } = .error err := by
  cases h : ps.getDup did with
  | none =>
    refine ⟨.unmodelled, ?_⟩
    have h' : List.find? (fun x => x.did == did) ps.dstore = none := h
    simp [pgClose, PS.getDup, h']
  | some b =>
    refine ⟨.value, ?_⟩
    have h' : List.find? (fun x => x.did == did) ps.dstore = some b := h
    simp [pgClose, PS.getDup, h', hs b h, bind, Except.bind]

theorem pgClose_pgOpen (kids : List Node) (len : Nat) (pgid : Option String) (ps : PS) :
    ∃ err, pgClose kids (pgOpen len pgid ps) = .error err := by
  unfold pgOpen
  apply pgClose_unchanged
  intro b hb
  rw [hb]

mutual
/-- a faulty element inside an open group makes the load fail -/
theorem elem_faulty_fails (env : Env) (len : Nat) (e : Elem) (hb : HogBuild) (ps : PS)
    (h : e.faulty env.declared = true) : ∃ err, elem env len e hb ps = .error err :=
  match e, h with
  | .ref id loft, h => by
    rw [elem_ref]
    cases hl : env.lookupGene id with
    | none => exact ⟨.key, rfl⟩
    | some t => simp [Elem.faulty, Env.declared, hl] at h
  | .score _ _, h => by cases h
  | .prop _ _, h => by cases h
  | .pg pgid its, h => by
    rw [Elem.faulty, Bool.or_eq_true] at h
    rw [elem_pg]
    rcases h with h | h
    · obtain rfl := List.isEmpty_iff.mp h
      apply bind_error_right
      intro a ha
      cases ha
      apply bind_error_left
      exact pgClose_pgOpen _ _ _ _
    · apply bind_error_left
      exact elems_faulty_fails env len its hb _ h
  | .og hid og its, h => by
    rw [Elem.faulty, Bool.or_eq_true] at h
    rw [elem_og]
    rcases h with h | h
    · obtain rfl := List.isEmpty_iff.mp h
      apply bind_error_right
      intro a ha
      cases ha
      apply bind_error_left
      exact closeOg_nil env false _ _ rfl
    · apply bind_error_left
      exact elems_faulty_fails env (len + 1) its _ _ h
theorem elems_faulty_fails (env : Env) (len : Nat) (es : List Elem) (hb : HogBuild) (ps : PS)
    (h : faultyL env.declared es = true) : ∃ err, elems env len es hb ps = .error err :=
  match es, h with
  | [], h => by cases h
  | e :: es, h => by
    rw [faultyL, Bool.or_eq_true] at h
    rw [elems_cons]
    rcases h with h | h
    · apply bind_error_left
      exact elem_faulty_fails env len e hb ps h
    · apply bind_error_right
      intro r _
      exact elems_faulty_fails env len es r.1 r.2 h
end

mutual
theorem topElem_ff (env : Env) : (e : Elem) → (tops : List Node) → (ps : PS) →
    e.faulty env.declared = true → ∃ err, topElem env none e tops ps = .error err
  | .ref id loft, tops, ps, h => by
    -- a geneRef outside every group fails, declared or not
    rw [topElem]
    split <;> exact ⟨_, rfl⟩
  | .score _ _, tops, ps, h => by cases h
  | .prop _ _, tops, ps, h => by cases h
  | .pg pgid its, tops, ps, h => by
    rw [Elem.faulty, Bool.or_eq_true] at h
    rw [topElem_pg]
    rcases h with h | h
    · obtain rfl := List.isEmpty_iff.mp h
      apply bind_error_right
      intro a ha
      cases ha
      apply bind_error_left
      exact pgClose_pgOpen _ _ _ _
    · apply bind_error_left
      exact topElems_faulty_fails env its _ _ h
  | .og hid og its, tops, ps, h => by
    rw [Elem.faulty, Bool.or_eq_true] at h
    rw [topElem_og_none]
    rcases h with h | h
    · obtain rfl := List.isEmpty_iff.mp h
      apply bind_error_right
      intro a ha
      cases ha
      apply bind_error_left
      exact closeOg_nil env true _ _ rfl
    · apply bind_error_left
      exact elems_faulty_fails env 1 its _ _ h
/-- a faulty element at the top of `<groups>` makes an unfiltered load fail -/
theorem topElems_faulty_fails (env : Env) (es : List Elem) (tops : List Node) (ps : PS)
    (h : faultyL env.declared es = true) : ∃ err, topElems env none es tops ps = .error err :=
  match es, h with
  | [], h => by cases h
  | e :: es, h => by
    rw [faultyL, Bool.or_eq_true] at h
    rw [topElems_cons]
    rcases h with h | h
    · apply bind_error_left
      exact topElem_ff env e tops ps h
    · apply bind_error_right
      intro r _
      exact topElems_faulty_fails env es r.1 r.2 h
end

/-- a species element that does not resolve to a leaf makes the load fail, wherever it stands -/
theorem declareSpecies_fails (T : STree) (nm : Naming) (keep : String → Bool) (sp : List Species)
    (acc : List GeneRec) (s : Species) (hs : s ∈ sp) (e : Err) (h : resolveSpecies T nm s.name = .error e) :
    ∃ err, declareSpecies T nm keep sp acc = .error err := by
  induction sp generalizing acc with
  | nil => simp at hs
  | cons s' ss ih =>
    simp only [declareSpecies]
    rcases List.mem_cons.mp hs with hs | hs
    · subst hs
      apply bind_error_left
      exact ⟨e, h⟩
    · apply bind_error_right
      intro a _
      exact ih _ hs

/-- unknown species: KeyError; internal node named as a species: TypeError -/
theorem resolveSpecies_unknown (T : STree) (nm : Naming) (s : String) (h : T.findByName nm s = []) :
    resolveSpecies T nm s = .error .key := by
  simp [resolveSpecies, h]
theorem resolveSpecies_internal (T : STree) (nm : Naming) (s : String) (p : Taxon)
    (h : T.findByName nm s = [p]) (hi : T.isLeafAt p = false) :
    resolveSpecies T nm s = .error .type := by
  simp [resolveSpecies, h, hi]

/-- C20 for the species faults -/
theorem C20_species_fault_rejected (T : STree) (nm : Naming) (inp : Input) (s : Species)
    (hs : s ∈ inp.species) (e : Err) (h : resolveSpecies T nm s.name = .error e) :
    ∃ err, load T nm inp = .error err := by
  simp only [load, buildHam]
  apply bind_error_left
  exact declareSpecies_fails T nm _ inp.species [] s hs e h

/-- the genes the loader knows are exactly the declared ones -/
theorem declareSpecies_ids (T : STree) (nm : Naming) (sp : List Species) (acc genes : List GeneRec)
    (h : declareSpecies T nm (fun _ => true) sp acc = .ok genes) :
    genes.map (·.id) = acc.map (·.id) ++ sp.flatMap (fun s => s.genes.map (·.id)) := by
  induction sp generalizing acc with
  | nil =>
    simp only [declareSpecies] at h
    cases h
    simp
  | cons s ss ih =>
    rw [declareSpecies_cons] at h
    obtain ⟨p, _, h⟩ := bind_ok h
    rw [ih _ h]
    have hf : List.filter (fun _ : GeneDecl => true) s.genes = s.genes :=
      List.filter_eq_self.mpr (fun _ _ => rfl)
    simp [List.map_append, List.flatMap_cons, Function.comp_def, hf]

theorem lookup_isSome_eq (l : List GeneRec) (id : String) :
    ((l.map fun g => (g.id, g.tx)).lookup id).isSome = (l.map (·.id)).contains id := by
  induction l with
  | nil => simp
  | cons g gs ih =>
    simp only [List.map_cons, List.lookup_cons, List.contains_cons]
    cases hg : id == g.id with
    | true => simp
    | false => simpa using ih

/-- C20 for dangling gene references and empty groups: if any group of the file contains, at any
    depth, a reference to a gene that no species declares, an empty orthologGroup or an empty
    paralogGroup, the load raises -/
theorem C20_group_fault_rejected (T : STree) (nm : Naming) (inp : Input)
    (h : faultyL (fun id => (inp.species.flatMap (fun s => s.genes.map (·.id))).contains id) inp.groups = true) :
    ∃ err, load T nm inp = .error err := by
  simp only [load, buildHam]
  apply bind_error_right
  intro genes hg
  apply bind_error_left
  apply topElems_faulty_fails
  have hid := declareSpecies_ids T nm inp.species [] genes hg
  have : Env.declared { T := T, nm := nm, geneTx := genes.reverse.map fun g => (g.id, g.tx) } =
      (fun id => (inp.species.flatMap (fun s => s.genes.map (·.id))).contains id) := by
    funext id
    simp only [Env.declared, Env.lookupGene]
    rw [lookup_isSome_eq, Bool.eq_iff_iff]
    simp only [List.contains_iff_mem, List.map_reverse, List.mem_reverse, hid, List.map_nil, List.nil_append]
  rw [this]
  exact h

end Pyham
