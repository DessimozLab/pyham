/-
  C14 for comparisons over arbitrary branches, whole files: two consistent datasets that spell the same histories report the
  same NUMBER of gained and of lost genes (and have genomes of the same size) for every pair of ancestral genomes on a
  lineage (`C14_long_branch_counts_same_for_same_histories`), and the same number of duplicated copies and of retained
  genes for any two taxa (`C14_reported_counts_same_for_same_histories`).
-/
import PyhamModel.Lemmas.LostCount
import PyhamModel.Lemmas.HistoryInvariance
import PyhamModel.Lemmas.ReportedCount
namespace Pyham

/-- the one count whose group term looks at the subs; `s : Unit` is there for `HFold.same` -/
theorem extinct_here_same (a d : Taxon) (q : Taxon) (s : Unit) (x y : List Sub) (h : SameSubs x y) :
    (extinctFold a d).here q s x = (extinctFold a d).here q s y := by
  show (if (q == a && (if q == d then 1 else 0) + lineagesAtSubs d q x == 0) = true then 1 else 0) = _
  rw [sameSubs_lineages d h q]
  rfl

theorem sameL_extinct (a d : Taxon) : ∀ {l l' : SL}, SameL l l' → ∀ q, extinctAt a d q l = extinctAt a d q l' :=
  fun h q => (extinctFold a d).same (extinct_here_same a d) h q ()

theorem sameSubs_extinct (a d : Taxon) : ∀ {x y : List Sub}, SameSubs x y →
    ∀ q, extinctAtSubs a d q x = extinctAtSubs a d q y :=
  fun h q => (extinctFold a d).sameSubs (extinct_here_same a d) h q ()

theorem sameCopies_extinct (a d : Taxon) : ∀ {x y : List SL}, SameCopies x y →
    ∀ q, extinctAtCopies a d q x = extinctAtCopies a d q y :=
  fun h q => (extinctFold a d).sameCopies (extinct_here_same a d) h q ()

/-- **C14, comparisons over arbitrary branches, whole files**: same histories (any spelling, order, ids, labels, elision, naming
    mode) -- same number of gained genes, same number of lost genes and genomes of the same size for every two ancestral nodes
    `a` above `d`; hence also the same number of genes reported under an ancestor (`C05_sizes`) -/
theorem C14_long_branch_counts_same_for_same_histories (D D' : Dataset) (hc : D.Consistent) (hc' : D'.Consistent)
    (hT : D.T = D'.T) (hlen : D.fams.length = D'.fams.length)
    (hs : ∀ i (h1 : i < D.fams.length) (h2 : i < D'.fams.length),
        (D.fams[i]).1 = (D'.fams[i]).1 ∧ SameL (D.fams[i]).2 (D'.fams[i]).2) :
    ∃ H H', load D.T D.nm D.file = .ok H ∧ load D'.T D'.nm D'.file = .ok H' ∧
      ∀ a d, a <:+ d → a ≠ d → D.T.isInternalAt a = true → D.T.isInternalAt d = true →
        (hogsMap H a d).gain.length = (hogsMap H' a d).gain.length ∧
        (hogsMap H a d).loss.length = (hogsMap H' a d).loss.length ∧
        H.genomeSize d = H'.genomeSize d ∧ H.genomeSize a = H'.genomeSize a := by
  obtain ⟨H, L⟩ := Loaded.of_consistent D hc
  obtain ⟨H', L'⟩ := Loaded.of_consistent D' hc'
  refine ⟨H, H', L.eq, L'.eq, ?_⟩
  intro a d had hne hia hid
  have hia' : D'.T.isInternalAt a = true := hT ▸ hia
  have hid' : D'.T.isInternalAt d = true := hT ▸ hid
  have eL := fun t => sum_fams_same D.fams D'.fams hlen hs (lineagesAt t) (sameL_lineages t)
  rw [L.gained a d had hne hid, L'.gained a d had hne hid', L.lost a d hne hia hid, L'.lost a d hne hia' hid',
    L.genomeSize d hid, L'.genomeSize d hid', L.genomeSize a hia, L'.genomeSize a hia']
  exact ⟨sum_fams_same D.fams D'.fams hlen hs (fun q l => if q.isSuffixOf a then 0 else lineagesAt d q l)
      (fun h q => by rw [sameL_lineages d h q]),
    sum_fams_same D.fams D'.fams hlen hs (extinctAt a d) (sameL_extinct a d), eL d, eL a⟩

theorem sameL_reported (want : Bool) (a d : Taxon) : ∀ {l l' : SL}, SameL l l' → ∀ q st,
    reportedAt want a d q st l = reportedAt want a d q st l' :=
  (reportedFold want a d).same (fun _ _ _ _ _ => rfl)

theorem sameSubs_reported (want : Bool) (a d : Taxon) : ∀ {x y : List Sub}, SameSubs x y → ∀ q st,
    reportedAtSubs want a d q st x = reportedAtSubs want a d q st y :=
  (reportedFold want a d).sameSubs (fun _ _ _ _ _ => rfl)

theorem sameCopies_reported (want : Bool) (a d : Taxon) : ∀ {x y : List SL}, SameCopies x y → ∀ q st,
    reportedAtCopies want a d q st x = reportedAtCopies want a d q st y :=
  (reportedFold want a d).sameCopies (fun _ _ _ _ _ => rfl)

/-- **C14, all four cluster sizes of every vertical comparison, whole files**: same histories -- for ANY two taxa `a`, `d` the
    same number of duplicated copies and of retained genes (and, by `C14_long_branch_counts_same_for_same_histories`, of gained
    and lost genes between ancestral nodes) -/
theorem C14_reported_counts_same_for_same_histories (D D' : Dataset) (hc : D.Consistent) (hc' : D'.Consistent)
    (hlen : D.fams.length = D'.fams.length)
    (hs : ∀ i (h1 : i < D.fams.length) (h2 : i < D'.fams.length),
        (D.fams[i]).1 = (D'.fams[i]).1 ∧ SameL (D.fams[i]).2 (D'.fams[i]).2) :
    ∃ H H', load D.T D.nm D.file = .ok H ∧ load D'.T D'.nm D'.file = .ok H' ∧ ∀ a d,
      ((hogsMap H a d).dupl.map (·.2.length)).sum = ((hogsMap H' a d).dupl.map (·.2.length)).sum ∧
      (hogsMap H a d).retained.length = (hogsMap H' a d).retained.length := by
  obtain ⟨H, L⟩ := Loaded.of_consistent D hc
  obtain ⟨H', L'⟩ := Loaded.of_consistent D' hc'
  refine ⟨H, H', L.eq, L'.eq, fun a d => ?_⟩
  rw [(L.reported a d).1, (L.reported a d).2, (L'.reported a d).1, (L'.reported a d).2]
  exact ⟨sum_fams_same D.fams D'.fams hlen hs (fun q l => reportedAt true a d q none l)
      (fun h q => sameL_reported true a d h q none),
    sum_fams_same D.fams D'.fams hlen hs (fun q l => reportedAt false a d q none l)
      (fun h q => sameL_reported false a d h q none)⟩

end Pyham
