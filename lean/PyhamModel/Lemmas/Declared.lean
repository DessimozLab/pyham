/-
  C01 / C19: what `declareSpecies` makes of the species sections of a file.
-/
import PyhamModel.Lemmas.LoaderEqns
namespace Pyham

theorem declareSpecies_exact (T : STree) (nm : Naming) : (sp : List Species) → (acc genes : List GeneRec) →
    declareSpecies T nm (fun _ => true) sp acc = .ok genes →
    genes.map (fun g => (g.id, g.species, g.xrefs)) =
      acc.map (fun g => (g.id, g.species, g.xrefs)) ++
        sp.flatMap (fun s => s.genes.map fun g => (g.id, s.name, g.xrefs))
  | [], acc, genes, h => by
    simp only [declareSpecies, Except.ok.injEq] at h
    subst h
    simp
  | s :: ss, acc, genes, h => by
    rw [declareSpecies_cons] at h
    cases hr : resolveSpecies T nm s.name with
    | error e =>
      rw [hr] at h
      cases h
    | ok p =>
      rw [hr] at h
      rw [declareSpecies_exact T nm ss _ genes h, List.filter_eq_self.mpr fun _ _ => rfl]
      simp [List.map_append, List.map_map, Function.comp_def]

/-- **C01 / C19**: after a successful unfiltered load the extant genes are exactly the `<gene>` elements
    of the file, in file order, each with the name of the species that declares it and all its
    cross-reference attributes -/
theorem C01_extant_genes_are_the_declared (T : STree) (nm : Naming) (inp : Input) (H : Ham)
    (h : load T nm inp = .ok H) :
    H.genes.map (fun g => (g.id, g.species, g.xrefs)) =
      inp.species.flatMap (fun s => s.genes.map fun g => (g.id, s.name, g.xrefs)) := by
  obtain ⟨genes, _, _, _, hd, _, _, rfl⟩ := buildHam_ok h
  simpa using declareSpecies_exact T nm inp.species [] genes hd

end Pyham
