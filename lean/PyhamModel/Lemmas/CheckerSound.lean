/-
  The executable checker `realisesB` (Model/Realises.lean), which the driver evaluates on every explored case
  (tag `real`), is SOUND for the specification `Realises`: an echo `real=1` is a kernel-backed certificate that the
  model's load of that case realises its history.  (`cs_` / `Cs` in the names: checker soundness.)
  The checker matches children to subs greedily and by identity (`k.key == m`), so it is sound only on hierarchies
  whose nodes have pairwise distinct identities (`CsKInv`), as every loaded analysis has.
-/
import PyhamModel.Model.Realises
import PyhamModel.Lemmas.NodeLists
import PyhamModel.Lemmas.Spelling
namespace Pyham

theorem cs_perm_of_cover {α} [DecidableEq α] (l : List α) (hn : l.Nodup) (ms : List α) (hs : ∀ x ∈ l, x ∈ ms)
    (hl : ms.length = l.length) : ms.Perm l := by
  induction l generalizing ms with
  | nil =>
    have : ms = [] := List.eq_nil_of_length_eq_zero (by simpa using hl)
    subst this
    exact List.Perm.refl _
  | cons a l ih =>
    have ha : a ∈ ms := hs a (by simp)
    have hn' := List.nodup_cons.1 hn
    have h1 : ms.Perm (a :: ms.erase a) := List.perm_cons_erase ha
    have h2 : (ms.erase a).Perm l := by
      apply ih hn'.2
      · intro x hx
        have hne : x ≠ a := by
          intro e
          subst e
          exact hn'.1 hx
        exact (List.mem_erase_of_ne hne).2 (hs x (by simp [hx]))
      · rw [List.length_erase_of_mem ha, hl]
        simp
    exact h1.trans (h2.cons a)

theorem cs_pickFirst_spec {α} (p : α → Bool) : (xs : List α) → (x : α) → (rest : List α) →
    pickFirst p xs = some (x, rest) → p x = true ∧ xs.Perm (x :: rest)
  | [], x, rest, h => by simp [pickFirst] at h
  | y :: ys, x, rest, h => by
    simp only [pickFirst] at h
    split at h
    · rename_i hp
      simp only [Option.some.injEq, Prod.mk.injEq] at h
      obtain ⟨rfl, rfl⟩ := h
      exact ⟨hp, List.Perm.refl _⟩
    · cases hq : pickFirst p ys with
      | none => simp [hq] at h
      | some r =>
        obtain ⟨r1, r2⟩ := r
        simp only [hq, Option.map_some, Option.some.injEq, Prod.mk.injEq] at h
        obtain ⟨rfl, rfl⟩ := h
        obtain ⟨h1, h2⟩ := cs_pickFirst_spec p ys r1 r2 hq
        exact ⟨h1, (h2.cons y).trans (List.Perm.swap _ _ _)⟩

/-- distinct keys inside every child and among the children: what lets `cs_perm_of_cover` match the members of a
    record to the flagged children -/
def CsKInv (kids : List Node) : Prop :=
  (∀ k ∈ kids, (k.nodes.map Node.key).Nodup) ∧ (kids.map Node.key).Nodup

theorem CsKInv.perm {a b : List Node} (h : CsKInv a) (p : a.Perm b) : CsKInv b :=
  ⟨fun k hk => h.1 k (p.mem_iff.2 hk), (p.map Node.key).nodup_iff.1 h.2⟩

theorem CsKInv.sublist {a b : List Node} (h : CsKInv b) (s : a.Sublist b) : CsKInv a :=
  ⟨fun k hk => h.1 k (s.subset hk), (s.map Node.key).nodup h.2⟩

theorem CsKInv.tail {k : Node} {ks : List Node} (h : CsKInv (k :: ks)) : CsKInv ks :=
  h.sublist (List.sublist_cons_self _ _)

theorem cs_kinv_of_nodesL (ks : List Node) (h : ((Node.nodesL ks).map Node.key).Nodup) : CsKInv ks := by
  refine ⟨fun k hk => h.sublist (List.Sublist.map _ ?_), h.sublist ((kids_sublist_nodesL ks).map _)⟩
  rw [nodesL_eq_flatMap']
  exact List.sublist_flatten_of_mem (List.mem_map_of_mem hk)

theorem cs_pickFirstRealising_spec (q : Taxon) (l : SL) : (kids : List Node) → (fuel : Nat) → (rest : List Node) →
    pickFirstRealising q l kids fuel = some rest →
    ∃ k, k.dup = none ∧ realisesB q l k = true ∧ kids.Perm (k :: rest)
  | [], _, rest, h => by simp [pickFirstRealising] at h
  | _ :: _, 0, rest, h => by simp [pickFirstRealising] at h
  | k :: ks, n + 1, rest, h => by
    simp only [pickFirstRealising] at h
    split at h
    · rename_i hp
      simp only [Option.some.injEq] at h
      subst h
      simp only [Bool.and_eq_true, Option.isNone_iff_eq_none] at hp
      exact ⟨k, hp.1, hp.2, List.Perm.refl _⟩
    · cases hq : pickFirstRealising q l ks n with
      | none => simp [hq] at h
      | some r =>
        simp only [hq, Option.map_some, Option.some.injEq] at h
        subst h
        obtain ⟨k', h1, h2, h3⟩ := cs_pickFirstRealising_spec q l ks n r hq
        exact ⟨k', h1, h2, (h3.cons k).trans (List.Perm.swap _ _ _)⟩

theorem cs_pickFirstRealisingAny_spec (q : Taxon) (l : SL) : (kids : List Node) → (fuel : Nat) → (rest : List Node) →
    pickFirstRealisingAny q l kids fuel = some rest →
    ∃ k, realisesB q l k = true ∧ kids.Perm (k :: rest)
  | [], _, rest, h => by simp [pickFirstRealisingAny] at h
  | _ :: _, 0, rest, h => by simp [pickFirstRealisingAny] at h
  | k :: ks, n + 1, rest, h => by
    simp only [pickFirstRealisingAny] at h
    split at h
    · rename_i hp
      simp only [Option.some.injEq] at h
      subst h
      exact ⟨k, hp, List.Perm.refl _⟩
    · cases hq : pickFirstRealisingAny q l ks n with
      | none => simp [hq] at h
      | some r =>
        simp only [hq, Option.map_some, Option.some.injEq] at h
        subst h
        obtain ⟨k', h2, h3⟩ := cs_pickFirstRealisingAny_spec q l ks n r hq
        exact ⟨k', h2, (h3.cons k).trans (List.Perm.swap _ _ _)⟩

theorem cs_sound_all :
    (∀ q l n, (n.nodes.map Node.key).Nodup → realisesB q l n = true → Realises q l n) ∧
    (∀ q subs kids dups, CsKInv kids → realisesSubsB q subs kids dups = true →
      ∃ (plain : List Node) (evs : List (DupRec × List Node)),
        kids.Perm (plain ++ evs.flatMap (·.2)) ∧ dups.Perm (evs.map (·.1)) ∧ RealisesSubs q subs plain evs) ∧
    (∀ q cs ks, CsKInv ks → realisesCopiesB q cs ks = true → ∃ ks', ks.Perm ks' ∧ RealisesCopies q cs ks') := by
  have key := SL.induction
    (P := fun l => ∀ q n, (n.nodes.map Node.key).Nodup → realisesB q l n = true → Realises q l n)
    (PS := fun subs => ∀ q kids dups, CsKInv kids → realisesSubsB q subs kids dups = true →
      ∃ (plain : List Node) (evs : List (DupRec × List Node)),
        kids.Perm (plain ++ evs.flatMap (·.2)) ∧ dups.Perm (evs.map (·.1)) ∧ RealisesSubs q subs plain evs)
    (PC := fun cs => ∀ q ks, CsKInv ks → realisesCopiesB q cs ks = true →
      ∃ ks', ks.Perm ks' ∧ RealisesCopies q cs ks') ?_ ?_ ?_ ?_ ?_ ?_ ?_ ?_
  · exact ⟨fun q l => key.1 l q, fun q subs => key.2.1 subs q, fun q cs => key.2.2 cs q⟩
  · intro id loft q n _ h
    cases n with
    | hog => simp [realisesB] at h
    | gene id' t d loft' =>
      simp only [realisesB, Bool.and_eq_true, beq_iff_eq] at h
      obtain ⟨⟨rfl, rfl⟩, rfl⟩ := h
      exact ⟨d, rfl⟩
  · intro w hid label subs ih q n hk h
    cases n with
    | gene => simp [realisesB] at h
    | hog info t d kids dups =>
      simp only [realisesB, Bool.and_eq_true, beq_iff_eq, decide_eq_true_eq] at h
      obtain ⟨⟨rfl, hs⟩, hn⟩ := h
      obtain ⟨plain, evs, h1, h2, h3⟩ := ih t kids dups (cs_kinv_of_nodesL kids (List.nodup_cons.mp hk).2) hs
      refine ⟨info, d, kids, dups, rfl, plain, evs, h1, h2, ?_, h3⟩
      have hp := (h2.map (·.did)).nodup_iff.1 hn
      rwa [List.map_map] at hp
  · intro q kids dups _ h
    simp only [realisesSubsB, Bool.and_eq_true, List.isEmpty_iff] at h
    obtain ⟨rfl, rfl⟩ := h
    exact ⟨[], [], List.Perm.refl _, List.Perm.refl _, rfl, rfl⟩
  · intro i l r ihl ihr q kids dups hinv h
    simp only [realisesSubsB] at h
    split at h
    · rename_i rest hp
      obtain ⟨k, hd, hb, hperm⟩ := cs_pickFirstRealising_spec (i :: q) l kids kids.length rest hp
      have hinv' : CsKInv (k :: rest) := hinv.perm hperm
      have hk := ihl (i :: q) k (hinv'.1 k (List.mem_cons_self ..)) hb
      obtain ⟨plain, evs, h1, h2, h3⟩ := ihr q rest dups hinv'.tail h
      exact ⟨k :: plain, evs, hperm.trans (h1.cons k), h2, k, plain, rfl, hd, hk, h3⟩
    · cases h
  · intro i pgid cs r ihc ihr q kids dups hinv h
    simp only [realisesSubsB] at h
    split at h
    · cases h
    · rename_i rc dups' hp
      simp only [Bool.and_eq_true, List.all_eq_true, beq_iff_eq] at h
      obtain ⟨⟨⟨⟨ha, _⟩, hl⟩, hc⟩, hr⟩ := h
      obtain ⟨hprc, hdperm⟩ := cs_pickFirst_spec _ _ _ _ hp
      simp only [Bool.and_eq_true, beq_iff_eq] at hprc
      obtain ⟨⟨hm, hpg⟩, _⟩ := hprc
      have hmine : CsKInv (kids.filter fun k => k.dup == some rc.did) := hinv.sublist List.filter_sublist
      have hrest : CsKInv (kids.filter fun k => k.dup != some rc.did) := hinv.sublist List.filter_sublist
      obtain ⟨ks, hks, hcs⟩ := ihc (i :: q) _ hmine hc
      obtain ⟨plain, evs, h1, h2, h3⟩ := ihr q _ dups' hrest hr
      refine ⟨plain, (rc, ks) :: evs, ?_, ?_, rc, ks, evs, rfl, hm, hpg, ?_, ?_, hcs, h3⟩
      · have hsplit := (List.filter_append_perm (fun k : Node => k.dup == some rc.did) kids).symm
        have h1' : (kids.filter fun x => !(x.dup == some rc.did)).Perm (plain ++ evs.flatMap (·.2)) := h1
        refine hsplit.trans ((hks.append h1').trans ?_)
        rw [List.flatMap_cons, ← List.append_assoc, ← List.append_assoc]
        exact List.Perm.append_right _ List.perm_append_comm
      · exact hdperm.trans (h2.cons rc)
      · apply cs_perm_of_cover _ (hmine.perm hks).2
        · intro x hx
          obtain ⟨k, hk, rfl⟩ := List.mem_map.1 hx
          have := ha k (hks.mem_iff.2 hk)
          simpa using this
        · rw [List.length_map, ← hks.length_eq]
          exact hl
      · intro k hk
        have := hks.mem_iff.2 hk
        simp only [List.mem_filter, beq_iff_eq] at this
        exact this.2
  · intro e r ih q kids dups hinv h
    rw [realisesSubsB] at h
    exact ih q kids dups hinv h
  · intro q ks _ h
    simp only [realisesCopiesB, List.isEmpty_iff] at h
    subst h
    exact ⟨[], List.Perm.refl _, rfl⟩
  · intro c cs ihc ihcs q ks hinv h
    simp only [realisesCopiesB] at h
    split at h
    · rename_i rest hp
      obtain ⟨k, hb, hperm⟩ := cs_pickFirstRealisingAny_spec q c ks ks.length rest hp
      have hinv' : CsKInv (k :: rest) := hinv.perm hperm
      have hk := ihc q k (hinv'.1 k (List.mem_cons_self ..)) hb
      obtain ⟨ks', h1, h2⟩ := ihcs q rest hinv'.tail h
      exact ⟨k :: ks', hperm.trans (h1.cons k), k, ks', rfl, hk, h2⟩
    · cases h

theorem cs_soundCopies (q : Taxon) : (cs : List SL) → (ks : List Node) → CsKInv ks →
    realisesCopiesB q cs ks = true → ∃ ks', ks.Perm ks' ∧ RealisesCopies q cs ks' :=
  cs_sound_all.2.2 q

/-- soundness of the checker (object identities inside `n` are distinct, as in every loaded analysis) -/
theorem realisesB_sound (q : Taxon) (l : SL) (n : Node) (hk : (n.nodes.map Node.key).Nodup)
    (h : realisesB q l n = true) : Realises q l n :=
  cs_sound_all.1 q l n hk h

end Pyham
