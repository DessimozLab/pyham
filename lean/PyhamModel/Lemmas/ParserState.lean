/-
  What the C03 proofs share about the parser while one family is read: the duplication store, the invariant `PInv`
  of the paralog frames with the frame relation `Fr`, the identities of the children read so far (`KN`, `KInv`),
  elements and element lists in success form, list facts about `dedup`, `dupGroups`, `eraseKey`, `findKey`.
  `Declared`, `NamesInj`, `Idle`, `isGrp` are hypotheses of the C03 theorems and used nowhere in this file.
-/
import PyhamModel.Model.Realises
import PyhamModel.Lemmas.TreeLemmas
import PyhamModel.Lemmas.Leaves
import PyhamModel.Lemmas.Frames
import PyhamModel.Lemmas.NodeLists
namespace Pyham

mutual
/-- the genes of a history with the leaf each lives at -/
def geneTaxaSL (q : Taxon) : SL → List (String × Taxon)
  | .gene id _ => [(id, q)]
  | .grp _ _ _ subs => geneTaxaSubs q subs
def geneTaxaSubs (q : Taxon) : List Sub → List (String × Taxon)
  | [] => []
  | .one i l :: r => geneTaxaSL (i :: q) l ++ geneTaxaSubs q r
  | .dup i _ cs :: r => geneTaxaCopies (i :: q) cs ++ geneTaxaSubs q r
  | .ann _ :: r => geneTaxaSubs q r
def geneTaxaCopies (q : Taxon) : List SL → List (String × Taxon)
  | [] => []
  | c :: cs => geneTaxaSL q c ++ geneTaxaCopies q cs
end

/-- every gene of the history is declared in the species of its leaf -/
def Declared (env : Env) (q : Taxon) (l : SL) : Prop := ∀ e ∈ geneTaxaSL q l, env.lookupGene e.1 = some e.2

/-- node names are unambiguous (what an accepted taxonomy plus resolvable species names give) -/
def NamesInj (T : STree) (nm : Naming) : Prop :=
  ∀ t t' s, T.nameAt nm t = some s → T.nameAt nm t' = some s → t = t'

/-- parser state between two top-level families: no paralogGroup open, duplication ids fresh -/
def Idle (ps : PS) : Prop :=
  ps.pstack = [] ∧ ps.inPG = none ∧ ps.cur = none ∧ ∀ b ∈ ps.dstore, b.did < ps.next

def isGrp : SL → Bool
  | .grp .. => true
  | _ => false

/-! ### list helpers -/

theorem dedup_const {α} [BEq α] [LawfulBEq α] (t : α) (l : List α) (hne : l ≠ []) (h : ∀ x ∈ l, x = t) :
    dedup l = [t] := by
  cases l with
  | nil => exact absurd rfl hne
  | cons x xs =>
    have hx := h x (by simp)
    subst hx
    simp only [dedup, List.cons.injEq, true_and, List.filter_eq_nil_iff, mem_dedup]
    intro a ha
    simp [h a (by simp [ha])]

theorem dedup_append {α} [BEq α] [LawfulBEq α] (a b : List α) (h : ∀ x ∈ a, x ∉ b) :
    dedup (a ++ b) = dedup a ++ dedup b := by
  induction a with
  | nil => rfl
  | cons x a ih =>
    have hb : (dedup b).filter (· != x) = dedup b := by
      rw [List.filter_eq_self]
      intro y hy
      rw [mem_dedup] at hy
      simp only [bne_iff_ne, ne_eq]
      intro e
      exact h x (by simp) (e ▸ hy)
    simp only [List.cons_append, dedup, ih (fun y hy => h y (by simp [hy])), List.filter_append, hb]

theorem dupGroups_append (a b : List Node)
    (h : ∀ k ∈ a, ∀ k' ∈ b, ∀ d, k.dup = some d → k'.dup ≠ some d) :
    dupGroups (a ++ b) = dupGroups a ++ dupGroups b := by
  unfold dupGroups
  rw [List.filterMap_append]
  apply dedup_append
  intro d hd hd'
  obtain ⟨k, hk, hkd⟩ := List.mem_filterMap.mp hd
  obtain ⟨k', hk', hkd'⟩ := List.mem_filterMap.mp hd'
  exact h k hk k' hk' d hkd hkd'

theorem dupGroups_const (d : Nat) (ks : List Node) (hne : ks ≠ []) (hks : ∀ k ∈ ks, k.dup = some d) :
    dupGroups ks = [d] := by
  unfold dupGroups
  apply dedup_const
  · cases ks with
    | nil => exact absurd rfl hne
    | cons k ks' => simp [hks k (by simp)]
  · intro x hx
    obtain ⟨k, hk, hkd⟩ := List.mem_filterMap.mp hx
    rw [hks k hk] at hkd
    exact (Option.some.inj hkd).symm

/-! ### the duplication store -/

def addMems (ks : List Key) (b : DupBuild) : DupBuild := { b with members := b.members ++ ks }

theorem addMems_did (ks : List Key) (b : DupBuild) : (addMems ks b).did = b.did := rfl

theorem addMems_addMems (a c : List Key) (b : DupBuild) : addMems c (addMems a b) = addMems (a ++ c) b := by
  simp [addMems, List.append_assoc]

theorem addMems_nil (b : DupBuild) : addMems [] b = b := by simp [addMems]

theorem getDup_modDup (ps : PS) (d d0 : Nat) (f : DupBuild → DupBuild) (hf : ∀ b, (f b).did = b.did) :
    (ps.modDup d f).getDup d0 = if d0 = d then (ps.getDup d0).map f else ps.getDup d0 := by
  have hg : ((fun b : DupBuild => b.did == d0) ∘ fun b => if b.did == d then f b else b) =
      fun b => b.did == d0 := by
    funext b
    simp only [Function.comp]
    split
    · rw [hf]
    · rfl
  simp only [PS.getDup, PS.modDup, List.find?_map, hg]
  cases h : ps.dstore.find? (·.did == d0) with
  | none => simp
  | some b =>
    have hb : b.did = d0 := by simpa using List.find?_some h
    subst hb
    by_cases hd : b.did = d <;> simp [hd]

/-- every stored duplication was created before the counter reached its present value -/
def DidsBelow (ps : PS) : Prop := ∀ d ∈ ps.dstore.map (·.did), d < ps.next

theorem getDup_none_of_didsBelow (ps : PS) (h : DidsBelow ps) (d : Nat) (hd : ps.next ≤ d) :
    ps.getDup d = none := by
  unfold PS.getDup
  rw [List.find?_eq_none]
  intro b hb
  have := h b.did (List.mem_map.mpr ⟨b, hb, rfl⟩)
  simp only [beq_iff_eq]
  omega

theorem getDup_newDup (ps : PS) (pgid : Option String) (h : DidsBelow ps) (d0 : Nat) :
    (newDup ps pgid).2.getDup d0 =
      if d0 = ps.next then some { did := ps.next, pgid := pgid, members := [], mrca := none }
      else ps.getDup d0 := by
  simp only [newDup, PS.getDup, List.find?_append]
  by_cases h0 : d0 = ps.next
  · subst h0
    have := getDup_none_of_didsBelow ps h ps.next (Nat.le_refl _)
    unfold PS.getDup at this
    simp [this]
  · have : (ps.next == d0) = false := by simpa using (Ne.symm h0)
    simp [h0, this]

theorem didsBelow_newDup (ps : PS) (pgid : Option String) (h : DidsBelow ps) : DidsBelow (newDup ps pgid).2 := by
  intro d hd
  simp only [newDup, List.map_append, List.mem_append, List.map_cons, List.map_nil, List.mem_singleton] at hd
  rcases hd with hd | hd
  · exact Nat.lt_succ_of_lt (h d hd)
  · rw [hd]
    exact Nat.lt_succ_self _

/-! ### the parser-state invariant -/

/-- the flag of an element read directly inside the group at nesting depth `len` -/
def flagAt (len : Nat) (ps : PS) : Option Nat := if ps.inPG == some len then ps.cur else none

/-- No frame is deeper than `len`: a paralogGroup opened at `len + 1` finds no frame of its own depth to reuse
    (`pgOpen_spec`), and a group read at `len + 1` is not flagged (`flagAt_succ_of_pinv`). -/
structure PInv (len : Nat) (ps : PS) : Prop where
  depth : ∀ f ∈ ps.pstack, f.depth ≤ len
  inpg : ps.inPG = ps.pstack.head?.map (·.depth)
  cur : ps.cur = ps.pstack.head?.map (·.did)
  dids : DidsBelow ps

/-- what every step leaves alone: the paralog frames; the counter only grows -/
structure Fr (ps ps' : PS) : Prop where
  pstack : ps'.pstack = ps.pstack
  inpg : ps'.inPG = ps.inPG
  cur : ps'.cur = ps.cur
  next : ps.next ≤ ps'.next
  dids : DidsBelow ps'

namespace Fr

theorem refl_of {ps : PS} (h : DidsBelow ps) : Fr ps ps := ⟨rfl, rfl, rfl, Nat.le_refl _, h⟩

theorem trans {a b c : PS} (h1 : Fr a b) (h2 : Fr b c) : Fr a c :=
  ⟨h2.pstack.trans h1.pstack, h2.inpg.trans h1.inpg, h2.cur.trans h1.cur,
    Nat.le_trans h1.next h2.next, h2.dids⟩

end Fr

namespace PInv

theorem of_fr {len : Nat} {ps ps' : PS} (h : PInv len ps) (f : Fr ps ps') : PInv len ps' :=
  ⟨f.pstack ▸ h.depth, f.pstack ▸ f.inpg ▸ h.inpg, f.pstack ▸ f.cur ▸ h.cur, f.dids⟩

theorem mono {len : Nat} {ps : PS} (h : PInv len ps) : PInv (len + 1) ps :=
  ⟨fun f hf => Nat.le_succ_of_le (h.depth f hf), h.inpg, h.cur, h.dids⟩

end PInv

theorem flagAt_fr {len : Nat} {ps ps' : PS} (f : Fr ps ps') : flagAt len ps' = flagAt len ps := by
  simp [flagAt, f.inpg, f.cur]

theorem flagAt_succ_of_pinv {len : Nat} {ps : PS} (h : PInv len ps) : flagAt (len + 1) ps = none := by
  unfold flagAt
  rw [h.inpg]
  cases hp : ps.pstack with
  | nil => simp
  | cons f fs =>
    have := h.depth f (by rw [hp]; simp)
    have hne : f.depth ≠ len + 1 := by omega
    simp [hne]

namespace FrC

theorem toFr {ps ps' : PS} (h : FrC ps ps') (hd : DidsBelow ps) : Fr ps ps' :=
  ⟨h.pstack, h.inpg, h.cur, h.next, fun d hd' => Nat.lt_of_lt_of_le (hd d (h.dids ▸ hd')) h.next⟩

end FrC

theorem getDup_register (ps : PS) (t : Taxon) (k : Key) (d : Nat) : (ps.register t k).getDup d = ps.getDup d := rfl

/-! ### children with distinct keys -/

theorem eraseKey_perm : (K : List Node) → (c : Node) → (K.map Node.key).Nodup → c ∈ K →
    (eraseKey c.key K ++ [c]).Perm K := by
  intro K c
  induction K with
  | nil => intro _ hc; cases hc
  | cons n ns ih =>
    intro hnd hc
    simp only [eraseKey]
    by_cases hk : n.key = c.key
    · rw [eq_of_nodup_map Node.key _ hnd n c List.mem_cons_self hc hk]
      simp only [beq_self_eq_true, if_true]
      exact List.perm_append_singleton _ _
    · have hk' : (n.key == c.key) = false := by simpa using hk
      have hcn : c ∈ ns := (List.mem_cons.mp hc).resolve_left (fun h => hk (h ▸ rfl))
      rw [List.map_cons, List.nodup_cons] at hnd
      simp only [hk', Bool.false_eq_true, if_false, List.cons_append]
      exact (ih hnd.2 hcn).cons n

theorem findKey_of_mem : (kids : List Node) → (k : Node) → (kids.map Node.key).Nodup → k ∈ kids →
    findKey k.key kids = some k := by
  intro kids k
  induction kids with
  | nil => intro _ hk; cases hk
  | cons n ns ih =>
    intro hnd hk
    simp only [findKey, List.find?_cons]
    by_cases hkey : n.key = k.key
    · rw [eq_of_nodup_map Node.key _ hnd n k List.mem_cons_self hk hkey]
      simp
    · have hkey' : (n.key == k.key) = false := by simpa using hkey
      simp only [hkey']
      have hkn : k ∈ ns := by
        rcases List.mem_cons.mp hk with h | h
        · subst h; exact absurd rfl hkey
        · exact h
      rw [List.map_cons, List.nodup_cons] at hnd
      exact ih hnd.2 hkn

theorem mapM_findKey (kids : List Node) (hnd : (kids.map Node.key).Nodup) : (ks : List Node) →
    (∀ k ∈ ks, k ∈ kids) →
    (ks.map Node.key).mapM (fun k => (findKey k kids).map Node.tx) = some (ks.map Node.tx) := by
  intro ks
  induction ks with
  | nil => intro _; rfl
  | cons k ks ih =>
    intro h
    have ih := ih (fun k hk => h k (by simp [hk]))
    simp only [List.map_cons, List.mapM_cons, findKey_of_mem kids k hnd (h k (by simp)), ih]
    rfl

theorem sameKeys_of_perm {a b : List Key} (h : a.Perm b) : sameKeys a b = true := by
  simp only [sameKeys, Bool.and_eq_true, List.all_eq_true, List.contains_iff_mem]
  exact ⟨fun x hx => h.mem_iff.mp hx, fun x hx => h.mem_iff.mpr hx⟩

/-! ### distinct identities among the children read so far -/

def KN (K : List Node) (N : Nat) : Prop := (K.map Node.key).Nodup ∧ UidsBelow N K

namespace KN

theorem append_fresh {K : List Node} {N N' : Nat} {x : Node} (h : KN K N) (hN : N ≤ N')
    (hx : (x.key ∉ K.map Node.key) ∧ ∀ u, x.key = .h u → u < N') : KN (K ++ [x]) N' := by
  refine ⟨?_, ?_⟩
  · rw [List.map_append, List.nodup_append]
    refine ⟨h.1, by simp, ?_⟩
    intro a ha b hb hab
    simp only [List.map_cons, List.map_nil, List.mem_singleton] at hb
    subst hb; subst hab
    exact hx.1 ha
  · rw [UidsBelow.append_iff]
    refine ⟨h.2.mono hN, ?_⟩
    intro k hk u hu
    rw [List.mem_singleton] at hk; subst hk
    exact hx.2 u hu



theorem perm {K K' : List Node} {N : Nat} (h : KN K N) (hp : K'.Perm K) : KN K' N :=
  ⟨(hp.map Node.key).nodup_iff.mpr h.1, fun k hk => h.2 k (hp.mem_iff.mp hk)⟩

theorem mono {K : List Node} {N N' : Nat} (h : KN K N) (hN : N ≤ N') : KN K N' :=
  ⟨h.1, h.2.mono hN⟩

theorem tail {K : List Node} {N : Nat} {c : Node} (h : KN (c :: K) N) : KN K N :=
  ⟨(List.nodup_cons.mp h.1).2, fun k hk => h.2 k (List.mem_cons_of_mem _ hk)⟩

theorem erase {K L : List Node} {N : Nat} {c : Node} (h : KN K N) (hK : K.Perm (c :: L)) :
    (eraseKey c.key K).Perm L ∧ KN (c :: eraseKey c.key K) N := by
  have hc : c ∈ K := hK.mem_iff.mpr (by simp)
  have hp : (c :: eraseKey c.key K).Perm K :=
    (List.perm_append_singleton _ _).symm.trans (eraseKey_perm K c h.1 hc)
  exact ⟨(hp.trans hK).cons_inv, h.perm hp⟩

theorem step {K L : List Node} {N N' : Nat} {c top : Node} (h : KN K N) (hK : K.Perm (c :: L))
    (hN : N ≤ N') (hk : top.key = c.key ∨ ∃ u, top.key = .h u ∧ N ≤ u ∧ u < N') :
    (eraseKey c.key K ++ [top]).Perm (L ++ [top]) ∧ KN (eraseKey c.key K ++ [top]) N' := by
  obtain ⟨hp, h'⟩ := h.erase hK
  refine ⟨hp.append_right _, h'.tail.append_fresh hN ?_⟩
  rcases hk with hk | ⟨u, hu, hu1, hu2⟩
  · rw [hk]
    refine ⟨(List.nodup_cons.mp h'.1).1, ?_⟩
    intro u hu
    have := h'.2 c (by simp) u hu
    omega
  · rw [hu]
    refine ⟨?_, ?_⟩
    · intro hm
      obtain ⟨k, hk1, hk2⟩ := List.mem_map.mp hm
      have := h'.tail.2 k hk1 u hk2
      omega
    · intro u' hu'
      cases hu'
      exact hu2

end KN

/-- `Leaves` works for any successful load, where a gene may be referenced twice: there only HOG identities are
    distinct (`HogKeysNodup`) and a child is found through `KeyLe` / `KeyDet`.  Under C03 all keys are distinct and
    "remove by identity" is removal of a list element (`eraseKey_perm`). -/
theorem KN.toLeaves {K : List Node} {N : Nat} (h : KN K N) : HogKeysNodup K ∧ UidsBelow N K :=
  ⟨(h.1.sublist (List.filter_sublist.map _) :), h.2⟩

/-- keys are distinct, HOG ids were handed out before `N`, gene ids are not among the genes `G`
    still to be read -/
def KInv (kids : List Node) (N : Nat) (G : List String) : Prop :=
  (kids.map Node.key).Nodup ∧ (∀ k ∈ kids, ∀ u, k.key = Key.h u → u < N) ∧
    (∀ k ∈ kids, ∀ id, k.key = Key.g id → id ∉ G)

/-- the identity of the node a lineage is read into -/
def KeySpec (l : SL) (n : Node) (N N' : Nat) : Prop :=
  (∃ id ∈ genesOf l, n.key = .g id) ∨ (∃ u, n.key = .h u ∧ N ≤ u ∧ u < N')

namespace KInv

theorem nil (N : Nat) (G : List String) : KInv [] N G :=
  ⟨by simp, by simp, by simp⟩

theorem step {kids : List Node} {N N' : Nat} {G1 G2 : List String} {n : Node}
    (h : KInv kids N (G1 ++ G2)) (hG : (G1 ++ G2).Nodup)
    (hk : (∃ id ∈ G1, n.key = .g id) ∨ (∃ u, n.key = .h u ∧ N ≤ u ∧ u < N')) (hN : N ≤ N') :
    KInv (kids ++ [n]) N' G2 := by
  obtain ⟨h1, h2, h3⟩ := h
  have hfresh : n.key ∉ kids.map Node.key ∧ ∀ u, n.key = .h u → u < N' := by
    refine ⟨fun hm => ?_, fun u hu => ?_⟩
    · obtain ⟨k, hk1, hk2⟩ := List.mem_map.mp hm
      rcases hk with ⟨id, hid, hkey⟩ | ⟨u, hkey, hu1, _⟩
      · exact h3 k hk1 id (hk2.trans hkey) (List.mem_append_left _ hid)
      · exact Nat.not_lt_of_le hu1 (h2 k hk1 u (hk2.trans hkey))
    · rcases hk with ⟨id, _, hkey⟩ | ⟨u', hkey, _, hu2⟩
      · rw [hkey] at hu
        cases hu
      · rw [hkey] at hu
        cases hu
        exact hu2
  obtain ⟨k1, k2⟩ := KN.append_fresh ⟨h1, h2⟩ hN hfresh
  refine ⟨k1, k2, ?_⟩
  intro k hk' id hid hc
  rcases List.mem_append.mp hk' with hk' | hk'
  · exact h3 k hk' id hid (List.mem_append_right _ hc)
  · rw [List.mem_singleton.mp hk'] at hid
    rcases hk with ⟨id', hid', hkey⟩ | ⟨u', hkey, _, _⟩
    · rw [hkey] at hid
      cases hid
      exact (List.nodup_append.mp hG).2.2 id hid' id hc rfl
    · rw [hkey] at hid
      cases hid

theorem weaken {kids : List Node} {N N' : Nat} {G G' : List String}
    (h : KInv kids N G) (hN : N ≤ N') (hG : ∀ x ∈ G', x ∈ G) : KInv kids N' G' :=
  ⟨h.1, fun k hk u hu => Nat.lt_of_lt_of_le (h.2.1 k hk u hu) hN,
    fun k hk id hid hc => h.2.2 k hk id hid (hG id hc)⟩

end KInv

/-! ### sequencing -/

theorem elems_cons_ok {env : Env} {len : Nat} {e : Elem} {es : List Elem} {hb hb1 : HogBuild} {ps ps1 : PS}
    (h : elem env len e hb ps = .ok (hb1, ps1)) :
    elems env len (e :: es) hb ps = elems env len es hb1 ps1 := by
  simp only [elems, bind, Except.bind, h]

theorem elems_append_ok {env : Env} {len : Nat} : (a : List Elem) → {b : List Elem} → {hb hb1 : HogBuild} →
    {ps ps1 : PS} → elems env len a hb ps = .ok (hb1, ps1) →
    elems env len (a ++ b) hb ps = elems env len b hb1 ps1 := by
  intro a
  induction a with
  | nil =>
    intro b hb hb1 ps ps1 h
    simp only [elems, Except.ok.injEq, Prod.mk.injEq] at h
    obtain ⟨rfl, rfl⟩ := h
    rfl
  | cons e es ih =>
    intro b hb hb1 ps ps1 h
    obtain ⟨⟨hb2, ps2⟩, hv, h⟩ := Except.bind_ok h
    rw [List.cons_append, elems_cons_ok hv]
    exact ih h

theorem topElems_append_ok {env : Env} {flt : HogFilter} : (a : List Elem) → {b : List Elem} →
    {tops tops1 : List Node} → {ps ps1 : PS} → topElems env flt a tops ps = .ok (tops1, ps1) →
    topElems env flt (a ++ b) tops ps = topElems env flt b tops1 ps1 := by
  intro a
  induction a with
  | nil =>
    intro b tops tops1 ps ps1 h
    simp only [topElems, Except.ok.injEq, Prod.mk.injEq] at h
    obtain ⟨rfl, rfl⟩ := h
    rfl
  | cons e es ih =>
    intro b tops tops1 ps ps1 h
    obtain ⟨⟨t2, ps2⟩, hv, h⟩ := Except.bind_ok h
    simp only [List.cons_append, topElems, bind, Except.bind, hv]
    exact ih h

/-! ### opening a paralogGroup -/

theorem pgOpen_spec (len : Nat) (pgid : Option String) (ps : PS) (h : PInv len ps) :
    pgOpen (len + 1) pgid ps =
      { (newDup ps pgid).2 with
        pstack := { depth := len + 1, did := ps.next, size := 0 } :: ps.pstack,
        inPG := some (len + 1), cur := some ps.next } := by
  unfold pgOpen
  split
  rename_i did ps1 hp
  have hnd : (did, ps1) = newDup ps pgid := by
    rw [← hp]
    split
    · rename_i f fs hst
      have := h.depth f (by simp [hst])
      have hne : (f.depth == len + 1) = false := by simp; omega
      simp [hne]
    · rfl
  obtain ⟨rfl, rfl⟩ : did = ps.next ∧ ps1 = (newDup ps pgid).2 :=
    ⟨congrArg Prod.fst hnd, congrArg Prod.snd hnd⟩
  rw [getDup_newDup ps pgid h.dids]
  simp only [if_true]
  rfl

/-! ### single elements, in success form -/

/-- the optional `add_member` call when an element is read inside a paralogGroup -/
def bump (ps : PS) (flag : Option Nat) (k : Key) : PS :=
  match flag with
  | some d => ps.addMember d k
  | none => ps

theorem bump_frc (ps : PS) (flag : Option Nat) (k : Key) : FrC ps (bump ps flag k) := by
  cases flag with
  | none => exact FrC.refl _
  | some d => exact FrC.modDup ps d _ (fun _ => rfl)

theorem bump_succ_fr (ps : PS) (flag : Option Nat) (k : Key) (h : DidsBelow ps) :
    Fr ps (bump { ps with next := ps.next + 1 } flag k) ∧
      (bump { ps with next := ps.next + 1 } flag k).next = ps.next + 1 := by
  have hf := (bump_frc { ps with next := ps.next + 1 } flag k).toFr (fun d hd => Nat.lt_succ_of_lt (h d hd))
  refine ⟨⟨hf.pstack, hf.inpg, hf.cur, Nat.le_of_succ_le hf.next, hf.dids⟩, ?_⟩
  cases flag <;> rfl

theorem bump_getDup (ps : PS) (flag : Option Nat) (k : Key) (d0 : Nat) :
    (bump ps flag k).getDup d0 = if flag = some d0 then (ps.getDup d0).map (addMems [k]) else ps.getDup d0 := by
  cases flag with
  | none => simp [bump]
  | some d =>
    show (ps.modDup d (addMems [k])).getDup d0 = _
    rw [getDup_modDup ps d d0 (addMems [k]) (fun _ => rfl)]
    by_cases h : d0 = d
    · subst h; simp
    · have : ¬ (some d = some d0) := by simp; exact fun e => h e.symm
      simp [h, this]

theorem elem_ref_ok {env : Env} {len : Nat} {id : String} {loft : Option String} {hb : HogBuild} {ps : PS}
    {t : Taxon} (h : env.lookupGene id = some t) :
    elem env len (.ref id loft) hb ps =
      .ok ({ hb with kids := hb.kids ++ [Node.gene id t (flagAt len ps) loft] }, bump ps (flagAt len ps) (.g id)) := by
  simp only [elem, h]
  rfl

theorem elem_pg_ok {env : Env} {len : Nat} {pgid : Option String} {its : List Elem} {hb hb1 : HogBuild}
    {ps ps1 ps2 : PS} (h1 : elems env len its hb (pgOpen len pgid ps) = .ok (hb1, ps1))
    (h2 : pgClose hb1.kids ps1 = .ok ps2) :
    elem env len (.pg pgid its) hb ps = .ok (hb1, ps2) := by
  simp only [elem, bind, Except.bind, h1, h2]

theorem elem_og_ok {env : Env} {len : Nat} {hid og : Option String} {its : List Elem} {hb nb : HogBuild}
    {ps ps2 ps3 : PS} {res : List Node}
    (h1 : elems env (len + 1) its (openOg len hid og ps).1 (openOg len hid og ps).2 = .ok (nb, ps2))
    (h2 : closeOg env false nb ps2 = .ok (res, ps3)) :
    elem env len (.og hid og its) hb ps = .ok ({ hb with kids := hb.kids ++ res }, ps3) := by
  rw [elem_og, h1]
  simp only [Except.bind, h2]

theorem topElem_og_ok {env : Env} {hid og : Option String} {its : List Elem} {tops : List Node} {nb : HogBuild}
    {ps ps2 ps3 : PS} {res : List Node}
    (h1 : elems env 1 its (openOg 0 hid og ps).1 (openOg 0 hid og ps).2 = .ok (nb, ps2))
    (h2 : closeOg env true nb ps2 = .ok (res, ps3)) :
    topElem env none (.og hid og its) tops ps = .ok (tops ++ res, ps3) := by
  rw [topElem_og_none, h1]
  simp only [Except.bind, h2]

/-! ### names and property dictionaries -/

theorem nameAt_isSome_of_internal (T : STree) (nm : Naming) (p : Taxon) (h : T.isInternalAt p = true) :
    ∃ s, T.nameAt nm p = some s := by
  unfold STree.isInternalAt at h
  unfold STree.nameAt
  cases hs : T.sub p with
  | none => simp [hs] at h
  | some t => exact ⟨_, rfl⟩

theorem lookup_dictSet_ne (k n v : String) (h : k ≠ n) (d : List (String × String)) :
    (dictSet d n v).lookup k = d.lookup k := by
  have h' : (k == n) = false := by simpa using h
  have h1 : (d.map fun e => if e.1 == n then (n, v) else e).lookup k = d.lookup k := by
    induction d with
    | nil => rfl
    | cons e es ih =>
      obtain ⟨a, b⟩ := e
      simp only [List.map_cons]
      by_cases hk : a = n
      · subst hk
        simp only [beq_self_eq_true, if_true, List.lookup_cons, h']
        exact ih
      · have hk' : (a == n) = false := by simpa using hk
        simp only [hk', Bool.false_eq_true, if_false, List.lookup_cons]
        cases k == a
        · exact ih
        · rfl
  unfold dictSet
  split
  · exact h1
  · simp [List.lookup_append, List.lookup, h']

end Pyham
