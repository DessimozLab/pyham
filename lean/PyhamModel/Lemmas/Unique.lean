/-
  C03 / C14 / C11 / C13: THE HISTORY DETERMINES THE HIERARCHY.  `Realises q l n` (the relation C03 establishes
  between a spelled history and the loaded HOG) leaves the order of children, the numbering of objects and the
  annotations of `n` free.  Here: nothing else is free.  The history can be read back from any hierarchy that
  realises it (`spell`, the reading used for the iHam export), up to the spelling freedom `SameL` (order of
  sub-branches and copies, written / elided flags, ids, labels, annotations).  Hence two hierarchies that realise
  the same history -- e.g. the loads of two spellings of one file, a filtered and an unfiltered load, loads under
  the two naming modes -- read back to the same history: they are the same hierarchy up to sibling order and
  object numbering.
-/
import PyhamModel.Lemmas.Roundtrip
namespace Pyham

mutual
/-- forget what `spell` does not record: LOFT ids of genes, ids of paralogGroups -/
def bareSL : SL → SL
  | .gene i _ => .gene i none
  | .grp w hid lab subs => .grp w hid lab (bareSubs subs)
def bareSubs : List Sub → List Sub
  | [] => []
  | .one i l :: r => .one i (bareSL l) :: bareSubs r
  | .dup i _ cs :: r => .dup i none (bareCopies cs) :: bareSubs r
  | .ann e :: r => .ann e :: bareSubs r
def bareCopies : List SL → List SL
  | [] => []
  | c :: cs => bareSL c :: bareCopies cs
end

theorem same_refl : (∀ l, SameL l l) ∧ (∀ s, SameSubs s s) ∧ (∀ cs, SameCopies cs cs) := by
  apply SL.induction
  case gene => exact fun i lo => .gene i lo
  case grp => exact fun _ _ _ _ ih => .grp _ _ _ _ _ _ _ _ ih
  case nil => exact .nil
  case one => exact fun i _ _ ihl ihr => .one i _ _ _ _ ihl ihr
  case dup => exact fun i pg _ _ ihc ihr => .dup i pg _ _ _ _ ihc ihr
  case ann => exact fun e _ ihr => .ann_left e _ _ (.ann_right e _ _ ihr)
  case cnil => exact .nil
  case ccons => exact fun _ _ ihc ihcs => .cons _ _ _ _ ihc ihcs

theorem SameL_refl (l : SL) : SameL l l := same_refl.1 l
theorem sameSubs_refl (s : List Sub) : SameSubs s s := same_refl.2.1 s
theorem sameCopies_refl (cs : List SL) : SameCopies cs cs := same_refl.2.2 cs

theorem SameL_trans (a b c : SL) (h1 : SameL a b) (h2 : SameL b c) : SameL a c := by
  cases h1 with
  | gene id loft => exact h2
  | grp w w' hid hid' lab lab' subs subs' hs =>
    cases h2 with
    | grp _ w'' _ hid'' _ lab'' _ subs'' hs' => exact .grp _ _ _ _ _ _ _ _ (.trans _ _ _ hs hs')

theorem bare_same :
    (∀ {l l' : SL}, SameL l l' → SameL (bareSL l) (bareSL l')) ∧
    (∀ {a b : List Sub}, SameSubs a b → SameSubs (bareSubs a) (bareSubs b)) ∧
    (∀ {a b : List SL}, SameCopies a b → SameCopies (bareCopies a) (bareCopies b)) := by
  apply SameL.induction
  case gene => exact fun id loft => .gene id none
  case grp => exact fun _ _ _ _ _ _ _ _ _ ih => .grp _ _ _ _ _ _ _ _ ih
  case nil => exact .nil
  case ann_left => exact fun e _ _ _ ih => .ann_left e _ _ ih
  case ann_right => exact fun e _ _ _ ih => .ann_right e _ _ ih
  case one => exact fun i _ _ _ _ _ _ ihl ihs => .one i _ _ _ _ ihl ihs
  case dup => exact fun i _ _ _ _ _ _ _ ihc ihs => .dup i none _ _ _ _ ihc ihs
  case swap =>
    intro x y a
    cases x <;> cases y <;> exact .swap _ _ _
  case trans => exact fun _ _ _ _ _ ih1 ih2 => .trans _ _ _ ih1 ih2
  case cnil => exact .nil
  case ccons => exact fun _ _ _ _ _ _ ihl ihs => .cons _ _ _ _ ihl ihs
  case cswap => exact fun _ _ _ => .swap _ _ _
  case ctrans => exact fun _ _ _ _ _ ih1 ih2 => .trans _ _ _ ih1 ih2

theorem bare_sameL : ∀ {l l' : SL}, SameL l l' → SameL (bareSL l) (bareSL l') :=
  bare_same.1
theorem bare_sameSubs : ∀ {a b : List Sub}, SameSubs a b → SameSubs (bareSubs a) (bareSubs b) :=
  bare_same.2.1
theorem bare_sameCopies : ∀ {a b : List SL}, SameCopies a b → SameCopies (bareCopies a) (bareCopies b) :=
  bare_same.2.2

theorem sameSubs_cons (x : Sub) {a b : List Sub} (h : SameSubs a b) : SameSubs (x :: a) (x :: b) := by
  cases x with
  | one i l => exact .one i _ _ _ _ (SameL_refl l) h
  | dup i pg cs => exact .dup i pg _ _ _ _ (sameCopies_refl cs) h
  | ann e => exact .ann_left e _ _ (.ann_right e _ _ h)

theorem sameSubs_of_perm {a b : List Sub} (h : a.Perm b) : SameSubs a b := by
  induction h with
  | nil => exact .nil
  | cons x _ ih => exact sameSubs_cons x ih
  | swap x y l => exact .swap y x l
  | trans _ _ ih1 ih2 => exact .trans _ _ _ ih1 ih2

theorem sameCopies_of_perm {a b : List SL} (h : a.Perm b) : SameCopies a b := by
  induction h with
  | nil => exact .nil
  | cons x _ ih => exact .cons _ _ _ _ (SameL_refl x) ih
  | swap x y l => exact .swap y x l
  | trans _ _ ih1 ih2 => exact .trans _ _ _ ih1 ih2

theorem sameSubs_map_dup {α} (f g : α → Nat) (A B : α → List SL) (R : List Sub) (es : List α)
    (h : ∀ e ∈ es, f e = g e ∧ SameCopies (A e) (B e)) :
    SameSubs (es.map (fun e => Sub.dup (f e) none (A e)) ++ R)
      (es.map (fun e => Sub.dup (g e) none (B e)) ++ R) := by
  induction es with
  | nil => exact sameSubs_refl R
  | cons e es ih =>
    obtain ⟨h1, h2⟩ := h e List.mem_cons_self
    simp only [List.map_cons, List.cons_append]
    rw [h1]
    exact .dup _ none _ _ _ _ h2 (ih fun x hx => h x (List.mem_cons_of_mem _ hx))

def keysL (ks : List Node) : List Key := (Node.nodesL ks).map Node.key

theorem keysL_append (a b : List Node) : keysL (a ++ b) = keysL a ++ keysL b := by
  simp [keysL, nodesL_eq_flatMap']

theorem keysL_cons (k : Node) (ks : List Node) : keysL (k :: ks) = k.nodes.map Node.key ++ keysL ks := by
  simp [keysL, Node.nodesL]

theorem keysL_perm {a b : List Node} (h : a.Perm b) : (keysL a).Perm (keysL b) := by
  unfold keysL
  rw [nodesL_eq_flatMap', nodesL_eq_flatMap']
  exact (h.flatMap_right _).map _

/-- the branch an event sits on, read off its first copy -/
def evBr (e : DupRec × List Node) : Nat :=
  match e.2 with
  | k :: _ => branchOf k
  | [] => 0

theorem rs_evs (T : STree) (q : Taxon) (subs : List Sub) (plain : List Node)
    (evs : List (DupRec × List Node)) (hw : wfhSubs T q subs = true) (h : RealisesSubs q subs plain evs) :
    ∀ e ∈ evs, e.1.members.Perm (e.2.map Node.key) ∧ e.2 ≠ [] ∧ ∀ k ∈ e.2, k.tx = evBr e :: q := by
  intro e he
  obtain ⟨_, hm, _, i, pg, cs, hs, hc⟩ := realisesSubs_evs q subs plain evs h e he
  obtain ⟨hlen, htx⟩ := realisesCopies_mem (i :: q) cs e.2 hc
  have h2 := (wfhSubs_dup T q subs hw i pg cs hs).1
  obtain ⟨rc, ks⟩ := e
  cases ks with
  | nil =>
    simp at hlen
    omega
  | cons k0 ks0 =>
    refine ⟨hm, by simp, ?_⟩
    intro k hk
    simp only [evBr, branchOf, htx k0 List.mem_cons_self, List.headD_cons]
    exact htx k hk

/-- what `spell` would write if the children came sorted by event, as `Realises` hands them over -/
def idealSubs (kc : Bool) (plain : List Node) (evs : List (DupRec × List Node)) : List Sub :=
  (evs.map fun e => Sub.dup (evBr e) none (e.2.map (spell false false))) ++
    plain.map fun k => Sub.one (branchOf k) (spell true kc k)

/-- with distinct keys, sorting the children by record (`subsOf`) and by event agree up to order: `hfp`, `hbr`,
    `hrem`; then one `SameSubs` step changes each duplication in place and one permutes the list -/
theorem ideal_to_spell (q : Taxon) (kids : List Node) (dups : List DupRec) (plain : List Node)
    (evs : List (DupRec × List Node)) (kc : Bool)
    (hkeys : (kids.map Node.key).Nodup)
    (hp : kids.Perm (plain ++ evs.flatMap (·.2))) (hd : dups.Perm (evs.map (·.1)))
    (hev : ∀ e ∈ evs, e.1.members.Perm (e.2.map Node.key) ∧ e.2 ≠ [] ∧ ∀ k ∈ e.2, k.tx = evBr e :: q) :
    SameSubs (idealSubs kc plain evs) (subsOf kc kids dups) := by
  have hkn : kids.Nodup := (List.pairwise_map.1 hkeys).imp (fun hne e => hne (congrArg Node.key e))
  have hpn : (plain ++ evs.flatMap (·.2)).Nodup := hp.nodup_iff.1 hkn
  have hinj : ∀ a ∈ kids, ∀ b ∈ kids, a.key = b.key → a = b :=
    fun a ha b hb => eq_of_nodup_map Node.key kids hkeys a b ha hb
  have hE : ∀ e ∈ evs, ∀ k ∈ e.2, k ∈ kids := by
    intro e he k hk
    exact hp.mem_iff.2 (List.mem_append_right _ (List.mem_flatMap.2 ⟨e, he, hk⟩))
  have hfil : ∀ e ∈ evs, ∀ k, (k ∈ kids ∧ k.key ∈ e.1.members) ↔ k ∈ e.2 := by
    intro e he k
    constructor
    · rintro ⟨hk, hm⟩
      have := (hev e he).1.mem_iff.1 hm
      obtain ⟨k', hk', hkey⟩ := List.mem_map.1 this
      have := hinj k' (hE e he k' hk') k hk hkey
      rw [← this]
      exact hk'
    · intro hk
      exact ⟨hE e he k hk, (hev e he).1.mem_iff.2 (List.mem_map_of_mem hk)⟩
  have hfp : ∀ e ∈ evs, (membersOf kids e.1).Perm e.2 := by
    intro e he
    unfold membersOf
    have hn2 : e.2.Nodup :=
      ((sublist_flatMap_of_mem (·.2) evs e he).trans (List.sublist_append_right _ _)).nodup hpn
    rw [List.perm_ext_iff_of_nodup (List.filter_sublist.nodup hkn) hn2]
    intro k
    simp only [List.mem_filter, List.contains_eq_mem, decide_eq_true_eq]
    exact hfil e he k
  have hbr : ∀ e ∈ evs, brOf kids e.1 = evBr e := by
    intro e he
    unfold brOf
    cases hfind : kids.find? (fun k => e.1.members.contains k.key) with
    | none =>
      obtain ⟨k1, hk1⟩ := List.exists_mem_of_ne_nil _ (hev e he).2.1
      have := List.find?_eq_none.1 hfind k1 (hE e he k1 hk1)
      have hm := ((hfil e he k1).2 hk1).2
      simp [hm] at this
    | some k0 =>
      have h0 := List.find?_some hfind
      have hk0 := List.mem_of_find?_eq_some hfind
      simp only [List.contains_eq_mem, decide_eq_true_eq] at h0
      have h1 := (hfil e he k0).1 ⟨hk0, h0⟩
      have h2 := (hev e he).2.2 k0 h1
      simp [branchOf, h2]
  have hmem : ∀ m, m ∈ dups.flatMap (·.members) ↔ ∃ k ∈ evs.flatMap (·.2), k.key = m := by
    intro m
    simp only [List.mem_flatMap]
    constructor
    · rintro ⟨d, hd1, hm⟩
      have := hd.mem_iff.1 hd1
      obtain ⟨e, he, rfl⟩ := List.mem_map.1 this
      have := (hev e he).1.mem_iff.1 hm
      obtain ⟨k, hk, hkey⟩ := List.mem_map.1 this
      exact ⟨k, ⟨e, he, hk⟩, hkey⟩
    · rintro ⟨k, ⟨e, he, hk⟩, rfl⟩
      exact ⟨e.1, hd.mem_iff.2 (List.mem_map_of_mem he), (hev e he).1.mem_iff.2 (List.mem_map_of_mem hk)⟩
  have hrem : (remOf kids dups).Perm plain := by
    unfold remOf
    rw [List.perm_ext_iff_of_nodup (List.filter_sublist.nodup hkn) ((List.sublist_append_left _ _).nodup hpn)]
    intro k
    simp only [List.mem_filter, Bool.not_eq_true', List.contains_eq_mem, decide_eq_false_iff_not]
    rw [hmem]
    have hdisj := (List.nodup_append.1 hpn).2.2
    constructor
    · rintro ⟨hk, hno⟩
      rcases List.mem_append.1 (hp.mem_iff.1 hk) with h | h
      · exact h
      · exact absurd ⟨k, h, rfl⟩ hno
    · intro hk
      refine ⟨hp.mem_iff.2 (List.mem_append_left _ hk), ?_⟩
      rintro ⟨k', hk', hkey⟩
      have := hinj k' (hp.mem_iff.2 (List.mem_append_right _ hk')) k
        (hp.mem_iff.2 (List.mem_append_left _ hk)) hkey
      subst this
      exact hdisj _ hk _ hk' rfl
  unfold idealSubs subsOf
  refine .trans _ (evs.map (fun e => Sub.dup (brOf kids e.1) none ((membersOf kids e.1).map (spell false false))) ++
    plain.map fun k => Sub.one (branchOf k) (spell true kc k)) _ ?_ ?_
  · apply sameSubs_map_dup
    intro e he
    exact ⟨(hbr e he).symm, sameCopies_of_perm ((hfp e he).symm.map _)⟩
  · apply sameSubs_of_perm
    refine List.Perm.append ?_ (hrem.symm.map _)
    have := (hd.map (fun d => Sub.dup (brOf kids d) none ((membersOf kids d).map (spell false false)))).symm
    rw [List.map_map] at this
    exact this

/-- what `spell` reads off a hierarchy that realises `l` is `l` up to spelling; `rsp_subs` / `rsp_copies` are the
    conjuncts for subs and copies -/
theorem rsp_all (T : STree) :
    (∀ (l : SL) (q : Taxon) (n : Node) (pOg keep : Bool),
      wfh T q l = true → Realises q l n → (n.nodes.map Node.key).Nodup → SameL (bareSL l) (spell pOg keep n)) ∧
    (∀ (subs : List Sub) (q : Taxon) (plain : List Node) (evs : List (DupRec × List Node)) (kc : Bool),
      wfhSubs T q subs = true → RealisesSubs q subs plain evs →
      (keysL (plain ++ evs.flatMap (·.2))).Nodup → SameSubs (bareSubs subs) (idealSubs kc plain evs)) ∧
    (∀ (cs : List SL) (q : Taxon) (ks : List Node),
      wfhCopies T q cs = true → RealisesCopies q cs ks → (keysL ks).Nodup →
      SameCopies (bareCopies cs) (ks.map (spell false false))) := by
  apply SL.induction
  case gene =>
    intro id loft q n _ _ _ hr _
    simp only [Realises] at hr
    obtain ⟨d, rfl⟩ := hr
    simp only [bareSL, spell]
    exact .gene id none
  case grp =>
    intro w hid lab subs ih q n pOg keep hw hr hk
    simp only [Realises] at hr
    obtain ⟨info, d, kids, dups, rfl, plain, evs, hp, hd, _, hsub⟩ := hr
    simp only [wfh, Bool.and_eq_true] at hw
    have hws := hw.2
    simp only [Node.nodes, List.map_cons, List.nodup_cons] at hk
    have hkn : (keysL kids).Nodup := hk.2
    have hkeys : (kids.map Node.key).Nodup := ((kids_sublist_nodesL kids).map Node.key).nodup hkn
    have hkn' : (keysL (plain ++ evs.flatMap (·.2))).Nodup := (keysL_perm hp).nodup_iff.1 hkn
    have h1 := ih q plain evs (kids.length == 1 && !elideB pOg keep kids dups) hws hsub hkn'
    have h2 := ideal_to_spell q kids dups plain evs (kids.length == 1 && !elideB pOg keep kids dups)
      hkeys hp hd (rs_evs T q subs plain evs hws hsub)
    have h3 := SameSubs.trans _ _ _ h1 h2
    rw [spell_hog, bareSL]
    split <;> exact .grp _ _ _ _ _ _ _ _ h3
  case nil =>
    intro q plain evs kc _ hr _
    simp only [RealisesSubs] at hr
    obtain ⟨rfl, rfl⟩ := hr
    exact .nil
  case one =>
    intro i l r ihl ihr q plain evs kc hw hr hk
    simp only [wfhSubs, Bool.and_eq_true] at hw
    simp only [RealisesSubs] at hr
    obtain ⟨k, p', rfl, _, hrk, hrest⟩ := hr
    rw [List.cons_append, keysL_cons, List.nodup_append] at hk
    have ih := ihr q p' evs kc hw.2 hrest hk.2.1
    have hl := ihl (i :: q) k true kc hw.1 hrk hk.1
    have hb : branchOf k = i := by simp [branchOf, realises_tx _ l k hrk]
    unfold idealSubs at ih
    simp only [bareSubs, idealSubs, List.map_cons]
    rw [hb]
    exact .trans _ _ _ (.one i _ _ _ _ hl ih) (sameSubs_of_perm List.perm_middle.symm)
  case dup =>
    intro i pg cs r ihc ihr q plain evs kc hw hr hk
    have hev := rs_evs T q _ plain evs hw hr
    simp only [wfhSubs, Bool.and_eq_true, decide_eq_true_eq] at hw
    simp only [RealisesSubs] at hr
    obtain ⟨rc, ks, evs', rfl, _, _, _, _, hc, hrest⟩ := hr
    have hbr : evBr (rc, ks) = i := by
      obtain ⟨_, hne, htx⟩ := hev (rc, ks) List.mem_cons_self
      obtain ⟨k1, hk1⟩ := List.exists_mem_of_ne_nil _ hne
      have e1 := htx k1 hk1
      rw [(realisesCopies_mem (i :: q) cs ks hc).2 k1 hk1] at e1
      simp only [List.cons.injEq, and_true] at e1
      exact e1.symm
    simp only [List.flatMap_cons] at hk
    rw [keysL_append, keysL_append] at hk
    have hk1 : (keysL ks).Nodup :=
      ((List.sublist_append_left _ _).trans (List.sublist_append_right _ _)).nodup hk
    have hk2 : (keysL (plain ++ evs'.flatMap (·.2))).Nodup := by
      rw [keysL_append]
      exact (List.Sublist.append (List.Sublist.refl _) (List.sublist_append_right _ _)).nodup hk
    have ih := ihr q plain evs' kc hw.2 hrest hk2
    have hcs := ihc (i :: q) ks hw.1.2 hc hk1
    unfold idealSubs at ih
    simp only [bareSubs, idealSubs, List.map_cons, List.cons_append]
    rw [hbr]
    exact .dup i none _ _ _ _ hcs ih
  case ann =>
    intro e r ihr q plain evs kc hw hr hk
    simp only [wfhSubs, Bool.and_eq_true] at hw
    simp only [RealisesSubs] at hr
    simp only [bareSubs]
    exact .ann_left e _ _ (ihr q plain evs kc hw.2 hr hk)
  case cnil =>
    intro q ks _ hr _
    simp only [RealisesCopies] at hr
    subst hr
    exact .nil
  case ccons =>
    intro c cs ihc ihcs q ks hw hr hk
    simp only [wfhCopies, Bool.and_eq_true] at hw
    simp only [RealisesCopies] at hr
    obtain ⟨k, ks', rfl, hrk, hrest⟩ := hr
    rw [keysL_cons, List.nodup_append] at hk
    simp only [bareCopies, List.map_cons]
    exact .cons _ _ _ _ (ihc q k false false hw.1 hrk hk.1) (ihcs q ks' hw.2 hrest hk.2.1)

theorem rsp_subs (T : STree) : (subs : List Sub) → (q : Taxon) → (plain : List Node) →
    (evs : List (DupRec × List Node)) → (kc : Bool) →
    wfhSubs T q subs = true → RealisesSubs q subs plain evs →
    (keysL (plain ++ evs.flatMap (·.2))).Nodup →
    SameSubs (bareSubs subs) (idealSubs kc plain evs) :=
  (rsp_all T).2.1
theorem rsp_copies (T : STree) : (cs : List SL) → (q : Taxon) → (ks : List Node) →
    wfhCopies T q cs = true → RealisesCopies q cs ks → (keysL ks).Nodup →
    SameCopies (bareCopies cs) (ks.map (spell false false)) :=
  (rsp_all T).2.2

/-- **reading the history back**: if `n` realises the well-formed history `l` (and object identities in `n` are
    distinct), then the history `spell` reads off `n` is `l` up to spelling -/
theorem realises_spell (T : STree) (q : Taxon) (l : SL) (n : Node) (pOg keep : Bool)
    (hw : wfh T q l = true) (hr : Realises q l n) (hk : (n.nodes.map Node.key).Nodup) :
    SameL (bareSL l) (spell pOg keep n) :=
  (rsp_all T).1 l q n pOg keep hw hr hk

/-- **uniqueness**: two hierarchies that realise one history read back to the same history -/
theorem realises_unique (T : STree) (q : Taxon) (l : SL) (n n' : Node)
    (hw : wfh T q l = true) (hr : Realises q l n) (hr' : Realises q l n')
    (hk : (n.nodes.map Node.key).Nodup) (hk' : (n'.nodes.map Node.key).Nodup) :
    SameL (spell false false n) (spell false false n') :=
  SameL_trans _ (bareSL l) _ (SameL_symm _ _ (realises_spell T q l n false false hw hr hk))
    (realises_spell T q l n' false false hw hr' hk')

/-- two hierarchies that realise two spellings of one history (C14) read back to the same history -/
theorem realises_unique_spellings (T : STree) (q : Taxon) (l l' : SL) (n n' : Node) (hs : SameL l l')
    (hw : wfh T q l = true) (hw' : wfh T q l' = true) (hr : Realises q l n) (hr' : Realises q l' n')
    (hk : (n.nodes.map Node.key).Nodup) (hk' : (n'.nodes.map Node.key).Nodup) :
    SameL (spell false false n) (spell false false n') :=
  SameL_trans _ (bareSL l) _ (SameL_symm _ _ (realises_spell T q l n false false hw hr hk))
    (SameL_trans _ (bareSL l') _ (bare_sameL hs) (realises_spell T q l' n' false false hw' hr' hk'))

end Pyham
