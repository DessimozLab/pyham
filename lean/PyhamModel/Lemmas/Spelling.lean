/-
  C14: results do not depend on how the file happens to be written.  `Realises` -- the relation
  between a history and the loaded HOG that C03 establishes -- does not look at the spelling:
  re-ordering the members of a group, relabelling group ids, adding or removing TaxRange labels,
  eliding or spelling out groups.  Two spellings of one history are therefore realised by exactly the
  same hierarchies.

  `SL.induction` and `SameL.induction` prove three statements at a time; such a triple is named `same_…`.
-/
import PyhamModel.Model.Realises
namespace Pyham

theorem SL.induction {P : SL → Prop} {PS : List Sub → Prop} {PC : List SL → Prop}
    (gene : ∀ id loft, P (.gene id loft))
    (grp : ∀ w hid lab subs, PS subs → P (.grp w hid lab subs))
    (nil : PS [])
    (one : ∀ i l r, P l → PS r → PS (.one i l :: r))
    (dup : ∀ i pg cs r, PC cs → PS r → PS (.dup i pg cs :: r))
    (ann : ∀ e r, PS r → PS (.ann e :: r))
    (cnil : PC [])
    (ccons : ∀ c cs, P c → PC cs → PC (c :: cs)) :
    (∀ l, P l) ∧ (∀ subs, PS subs) ∧ (∀ cs, PC cs) :=
  ⟨SL.rec (motive_2 := fun s => ∀ r, PS r → PS (s :: r)) gene grp (fun i l ih r => one i l r ih)
      (fun i pg cs ih r => dup i pg cs r ih) ann nil (fun _ r ihs => ihs r) cnil ccons,
   SL.rec_1 (motive_2 := fun s => ∀ r, PS r → PS (s :: r)) gene grp (fun i l ih r => one i l r ih)
      (fun i pg cs ih r => dup i pg cs r ih) ann nil (fun _ r ihs => ihs r) cnil ccons,
   SL.rec_2 (motive_2 := fun s => ∀ r, PS r → PS (s :: r)) gene grp (fun i l ih r => one i l r ih)
      (fun i pg cs ih r => dup i pg cs r ih) ann nil (fun _ r ihs => ihs r) cnil ccons⟩

mutual
/-- same history, possibly spelled differently: written/elided flag, group id, TaxRange label and
    annotations are free; sub-branches and copies may be listed in any order -/
inductive SameL : SL → SL → Prop
  | gene (id : String) (loft : Option String) : SameL (.gene id loft) (.gene id loft)
  | grp (w w' : Bool) (hid hid' : Option String) (lab lab' : Bool) (subs subs' : List Sub) :
      SameSubs subs subs' → SameL (.grp w hid lab subs) (.grp w' hid' lab' subs')
/-- the real subs correspond one to one, up to order; annotations are ignored -/
inductive SameSubs : List Sub → List Sub → Prop
  | nil : SameSubs [] []
  | ann_left (e : Elem) (a b : List Sub) : SameSubs a b → SameSubs (.ann e :: a) b
  | ann_right (e : Elem) (a b : List Sub) : SameSubs a b → SameSubs a (.ann e :: b)
  | one (i : Nat) (l l' : SL) (a b : List Sub) : SameL l l' → SameSubs a b → SameSubs (.one i l :: a) (.one i l' :: b)
  | dup (i : Nat) (pgid : Option String) (cs cs' : List SL) (a b : List Sub) :
      SameCopies cs cs' → SameSubs a b → SameSubs (.dup i pgid cs :: a) (.dup i pgid cs' :: b)
  | swap (x y : Sub) (a : List Sub) : SameSubs (x :: y :: a) (y :: x :: a)
  | trans (a b c : List Sub) : SameSubs a b → SameSubs b c → SameSubs a c
inductive SameCopies : List SL → List SL → Prop
  | nil : SameCopies [] []
  | cons (c c' : SL) (a b : List SL) : SameL c c' → SameCopies a b → SameCopies (c :: a) (c' :: b)
  | swap (x y : SL) (a : List SL) : SameCopies (x :: y :: a) (y :: x :: a)
  | trans (a b c : List SL) : SameCopies a b → SameCopies b c → SameCopies a c
end

theorem SameL.induction {P : SL → SL → Prop} {PS : List Sub → List Sub → Prop}
    {PC : List SL → List SL → Prop}
    (gene : ∀ id loft, P (.gene id loft) (.gene id loft))
    (grp : ∀ w w' hid hid' lab lab' subs subs', SameSubs subs subs' → PS subs subs' →
      P (.grp w hid lab subs) (.grp w' hid' lab' subs'))
    (nil : PS [] [])
    (ann_left : ∀ e a b, SameSubs a b → PS a b → PS (.ann e :: a) b)
    (ann_right : ∀ e a b, SameSubs a b → PS a b → PS a (.ann e :: b))
    (one : ∀ i l l' a b, SameL l l' → SameSubs a b → P l l' → PS a b → PS (.one i l :: a) (.one i l' :: b))
    (dup : ∀ i pgid cs cs' a b, SameCopies cs cs' → SameSubs a b → PC cs cs' → PS a b →
      PS (.dup i pgid cs :: a) (.dup i pgid cs' :: b))
    (swap : ∀ x y a, PS (x :: y :: a) (y :: x :: a))
    (trans : ∀ a b c, SameSubs a b → SameSubs b c → PS a b → PS b c → PS a c)
    (cnil : PC [] [])
    (ccons : ∀ c c' a b, SameL c c' → SameCopies a b → P c c' → PC a b → PC (c :: a) (c' :: b))
    (cswap : ∀ x y a, PC (x :: y :: a) (y :: x :: a))
    (ctrans : ∀ a b c, SameCopies a b → SameCopies b c → PC a b → PC b c → PC a c) :
    (∀ {l l'}, SameL l l' → P l l') ∧ (∀ {a b}, SameSubs a b → PS a b) ∧
    (∀ {a b}, SameCopies a b → PC a b) :=
  ⟨fun h => SameL.rec (motive_1 := fun l l' _ => P l l') (motive_2 := fun a b _ => PS a b)
      (motive_3 := fun a b _ => PC a b) gene grp nil ann_left ann_right one dup swap trans cnil ccons cswap ctrans h,
   fun h => SameSubs.rec (motive_1 := fun l l' _ => P l l') (motive_2 := fun a b _ => PS a b)
      (motive_3 := fun a b _ => PC a b) gene grp nil ann_left ann_right one dup swap trans cnil ccons cswap ctrans h,
   fun h => SameCopies.rec (motive_1 := fun l l' _ => P l l') (motive_2 := fun a b _ => PS a b)
      (motive_3 := fun a b _ => PC a b) gene grp nil ann_left ann_right one dup swap trans cnil ccons cswap ctrans h⟩

/-- what the enclosing group sees of the events: records and flagged children, up to order -/
def EvsSame (evs' evs : List (DupRec × List Node)) : Prop :=
  (evs'.map (·.1)).Perm (evs.map (·.1)) ∧ (evs'.flatMap (·.2)).Perm (evs.flatMap (·.2))

theorem EvsSame.refl (evs : List (DupRec × List Node)) : EvsSame evs evs := ⟨.refl _, .refl _⟩

theorem realisesSubs_cons (q : Taxon) (x : Sub) (a : List Sub) (plain : List Node)
    (evs : List (DupRec × List Node)) :
    RealisesSubs q (x :: a) plain evs ↔ ∃ p0 e0 p1 e1, plain = p0 ++ p1 ∧ evs = e0 ++ e1 ∧
      RealisesSubs q [x] p0 e0 ∧ RealisesSubs q a p1 e1 := by
  cases x with
  | one i l =>
    simp only [RealisesSubs]
    constructor
    · rintro ⟨k, p1, rfl, hk, hr, ha⟩
      exact ⟨[k], [], p1, evs, rfl, rfl, ⟨k, [], rfl, hk, hr, rfl, rfl⟩, ha⟩
    · rintro ⟨_, _, p1, e1, rfl, rfl, ⟨k, _, rfl, hk, hr, rfl, rfl⟩, ha⟩
      exact ⟨k, p1, rfl, hk, hr, ha⟩
  | dup i pg cs =>
    simp only [RealisesSubs]
    constructor
    · rintro ⟨rc, ks, e1, rfl, h1, h2, h3, h4, h5, ha⟩
      exact ⟨[], [(rc, ks)], plain, e1, rfl, rfl, ⟨rc, ks, [], rfl, h1, h2, h3, h4, h5, rfl, rfl⟩, ha⟩
    · rintro ⟨_, _, p1, e1, rfl, rfl, ⟨rc, ks, _, rfl, h1, h2, h3, h4, h5, rfl, rfl⟩, ha⟩
      exact ⟨rc, ks, e1, rfl, h1, h2, h3, h4, h5, ha⟩
  | ann e =>
    simp only [RealisesSubs]
    constructor
    · intro ha
      exact ⟨[], [], plain, evs, rfl, rfl, ⟨rfl, rfl⟩, ha⟩
    · rintro ⟨_, _, p1, e1, rfl, rfl, ⟨rfl, rfl⟩, ha⟩
      exact ha

theorem realisesSubs_swap (q : Taxon) (x y : Sub) (a : List Sub) (plain : List Node)
    (evs : List (DupRec × List Node)) (h : RealisesSubs q (x :: y :: a) plain evs) :
    ∃ plain' evs', plain'.Perm plain ∧ EvsSame evs' evs ∧ RealisesSubs q (y :: x :: a) plain' evs' := by
  obtain ⟨p0, e0, _, _, rfl, rfl, hx, h'⟩ := (realisesSubs_cons q x _ _ _).1 h
  obtain ⟨p1, e1, p2, e2, rfl, rfl, hy, ha⟩ := (realisesSubs_cons q y _ _ _).1 h'
  refine ⟨p1 ++ (p0 ++ p2), e1 ++ (e0 ++ e2), List.perm_append_comm_assoc .., ⟨?_, ?_⟩, ?_⟩
  · simp only [List.map_append]
    exact List.perm_append_comm_assoc ..
  · simp only [List.flatMap_append]
    exact List.perm_append_comm_assoc ..
  · exact (realisesSubs_cons q y _ _ _).2 ⟨p1, e1, _, _, rfl, rfl, hy,
      (realisesSubs_cons q x _ _ _).2 ⟨p0, e0, p2, e2, rfl, rfl, hx, ha⟩⟩
theorem realisesCopies_swap (q : Taxon) (x y : SL) (a : List SL) (ks : List Node)
    (h : RealisesCopies q (x :: y :: a) ks) :
    ∃ ks', ks'.Perm ks ∧ RealisesCopies q (y :: x :: a) ks' := by
  simp only [RealisesCopies] at h
  obtain ⟨k, _, rfl, hr, k2, r, rfl, hr2, hrest⟩ := h
  refine ⟨k2 :: k :: r, List.Perm.swap _ _ _, ?_⟩
  simp only [RealisesCopies]
  exact ⟨k2, _, rfl, hr2, k, _, rfl, hr, hrest⟩

/-- plain children and events are tracked separately and only up to permutation (`EvsSame`), hence the
    existentials -/
theorem same_real :
    (∀ {l l' : SL}, SameL l l' → ∀ (q : Taxon) (n : Node), Realises q l n → Realises q l' n) ∧
    (∀ {a b : List Sub}, SameSubs a b → ∀ (q : Taxon) (plain : List Node)
      (evs : List (DupRec × List Node)), RealisesSubs q a plain evs →
      ∃ plain' evs', plain'.Perm plain ∧ EvsSame evs' evs ∧ RealisesSubs q b plain' evs') ∧
    (∀ {a b : List SL}, SameCopies a b → ∀ (q : Taxon) (ks : List Node),
      RealisesCopies q a ks → ∃ ks', ks'.Perm ks ∧ RealisesCopies q b ks') := by
  apply SameL.induction
  case gene => exact fun id loft q n h => h
  case grp =>
    intro w w' hid hid' lab lab' subs subs' _ ih q n h
    simp only [Realises] at h ⊢
    obtain ⟨info, d, kids, dups, rfl, plain, evs, hk, hd, hnd, hsub⟩ := h
    obtain ⟨plain', evs', hp, ⟨he1, he2⟩, hsub'⟩ := ih q plain evs hsub
    refine ⟨info, d, kids, dups, rfl, plain', evs', ?_, ?_, ?_, hsub'⟩
    · exact hk.trans (List.Perm.append hp he2).symm
    · exact hd.trans he1.symm
    · have e : ∀ (x : List (DupRec × List Node)), x.map (·.1.did) = (x.map (·.1)).map (·.did) := by
        intro x
        simp [List.map_map]
      rw [e] at hnd ⊢
      exact ((he1.map _).nodup_iff).2 hnd
  case nil => exact fun q plain evs h => ⟨plain, evs, .refl _, .refl _, h⟩
  case ann_left =>
    intro e a b _ ih q plain evs h
    simp only [RealisesSubs] at h
    exact ih q plain evs h
  case ann_right =>
    intro e a b _ ih q plain evs h
    obtain ⟨p', e', hp, he, hr⟩ := ih q plain evs h
    exact ⟨p', e', hp, he, by simpa only [RealisesSubs] using hr⟩
  case one =>
    intro i l l' a b _ _ ihl ihs q plain evs h
    simp only [RealisesSubs] at h
    obtain ⟨k, p1, rfl, hk, hr, hrest⟩ := h
    obtain ⟨p', e', hp, he, hr'⟩ := ihs q p1 evs hrest
    refine ⟨k :: p', e', hp.cons _, he, ?_⟩
    simp only [RealisesSubs]
    exact ⟨k, p', rfl, hk, ihl _ _ hr, hr'⟩
  case dup =>
    intro i pgid cs cs' a b _ _ ihc ihs q plain evs h
    simp only [RealisesSubs] at h
    obtain ⟨rc, ks, evs1, rfl, h1, h2, h3, h4, h5, hrest⟩ := h
    obtain ⟨ks', hks, hc'⟩ := ihc (i :: q) ks h5
    obtain ⟨p', e', hp, ⟨he1, he2⟩, hr'⟩ := ihs q plain evs1 hrest
    refine ⟨p', (rc, ks') :: e', hp, ⟨?_, ?_⟩, ?_⟩
    · simp only [List.map_cons]
      exact he1.cons _
    · simp only [List.flatMap_cons]
      exact List.Perm.append hks he2
    · simp only [RealisesSubs]
      refine ⟨rc, ks', e', rfl, h1, h2, h3.trans (hks.map _).symm, ?_, hc', hr'⟩
      intro k hk
      exact h4 k (hks.mem_iff.1 hk)
  case swap => exact fun x y a q plain evs h => realisesSubs_swap q x y a plain evs h
  case trans =>
    intro a b c _ _ ih1 ih2 q plain evs h
    obtain ⟨p1, e1, hp1, ⟨ha1, hb1⟩, hr1⟩ := ih1 q plain evs h
    obtain ⟨p2, e2, hp2, ⟨ha2, hb2⟩, hr2⟩ := ih2 q p1 e1 hr1
    exact ⟨p2, e2, hp2.trans hp1, ⟨ha2.trans ha1, hb2.trans hb1⟩, hr2⟩
  case cnil => exact fun q ks h => ⟨ks, .refl _, h⟩
  case ccons =>
    intro c c' a b _ _ ihl ihs q ks h
    simp only [RealisesCopies] at h
    obtain ⟨k, r, rfl, hr, hrest⟩ := h
    obtain ⟨r', hp, hr'⟩ := ihs q r hrest
    refine ⟨k :: r', hp.cons _, ?_⟩
    simp only [RealisesCopies]
    exact ⟨k, r', rfl, ihl _ _ hr, hr'⟩
  case cswap => exact fun x y a q ks h => realisesCopies_swap q x y a ks h
  case ctrans =>
    intro a b c _ _ ih1 ih2 q ks h
    obtain ⟨k1, hp1, hr1⟩ := ih1 q ks h
    obtain ⟨k2, hp2, hr2⟩ := ih2 q k1 hr1
    exact ⟨k2, hp2.trans hp1, hr2⟩

theorem sameL_real : ∀ {l l' : SL}, SameL l l' → ∀ (q : Taxon) (n : Node), Realises q l n → Realises q l' n :=
  same_real.1
theorem sameSubs_real : ∀ {a b : List Sub}, SameSubs a b → ∀ (q : Taxon) (plain : List Node)
    (evs : List (DupRec × List Node)), RealisesSubs q a plain evs →
    ∃ plain' evs', plain'.Perm plain ∧ EvsSame evs' evs ∧ RealisesSubs q b plain' evs' :=
  same_real.2.1
theorem sameCopies_real : ∀ {a b : List SL}, SameCopies a b → ∀ (q : Taxon) (ks : List Node),
    RealisesCopies q a ks → ∃ ks', ks'.Perm ks ∧ RealisesCopies q b ks' :=
  same_real.2.2

theorem same_symm :
    (∀ {l l' : SL}, SameL l l' → SameL l' l) ∧ (∀ {a b : List Sub}, SameSubs a b → SameSubs b a) ∧
    (∀ {a b : List SL}, SameCopies a b → SameCopies b a) := by
  apply SameL.induction
  case gene => exact fun id loft => .gene id loft
  case grp => exact fun _ _ _ _ _ _ _ _ _ ih => .grp _ _ _ _ _ _ _ _ ih
  case nil => exact .nil
  case ann_left => exact fun e _ _ _ ih => .ann_right e _ _ ih
  case ann_right => exact fun e _ _ _ ih => .ann_left e _ _ ih
  case one => exact fun i _ _ _ _ _ _ ihl ihs => .one i _ _ _ _ ihl ihs
  case dup => exact fun i pgid _ _ _ _ _ _ ihc ihs => .dup i pgid _ _ _ _ ihc ihs
  case swap => exact fun x y a => .swap y x a
  case trans => exact fun _ _ _ _ _ ih1 ih2 => .trans _ _ _ ih2 ih1
  case cnil => exact .nil
  case ccons => exact fun _ _ _ _ _ _ ihl ihs => .cons _ _ _ _ ihl ihs
  case cswap => exact fun x y a => .swap y x a
  case ctrans => exact fun _ _ _ _ _ ih1 ih2 => .trans _ _ _ ih2 ih1

theorem SameL_symm (l l' : SL) (h : SameL l l') : SameL l' l := same_symm.1 h
theorem sameSubs_symm' : ∀ {a b : List Sub}, SameSubs a b → SameSubs b a :=
  same_symm.2.1
theorem sameCopies_symm' : ∀ {a b : List SL}, SameCopies a b → SameCopies b a :=
  same_symm.2.2

/-- **C14**: two spellings of one history are realised by exactly the same hierarchies -/
theorem C14_spelling_iff (q : Taxon) (l l' : SL) (n : Node) (h : SameL l l') :
    Realises q l n ↔ Realises q l' n :=
  ⟨sameL_real h q n, sameL_real (SameL_symm l l' h) q n⟩

end Pyham
