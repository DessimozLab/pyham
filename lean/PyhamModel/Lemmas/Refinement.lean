/-
  C03 in general: levels the file skips.  For every well-formed, recoverable spelled history
  (elided single-member groups, duplications whose copies sit several levels below the enclosing
  written group, groups whose only content is a paralog group) loading the encoding yields a HOG
  that realises the history: every skipped level is materialised as a single-child HOG, every
  duplication event sits directly under a HOG at its own level.

  The proof follows a written group through the loader in three steps.
  * Read (`subs_g`, `SubsG`).  Up to order the children of the open group are the apparent nodes `U` of the
    branches that spill nothing (`NS`) and the flagged copies of the events `evs` visible at this group; `RD` ties
    both to the sub-branches in file order.  Unwritten groups contribute no node of their own (`lin_ns`, `lin_sp`).
  * Close (`closeOg_rule`).  The level is the history's; every event is re-homed (`dupStep_event`), then the generic
    pass chains up what is still too deep: the result is the image of `U` under `VG`, of the events under `EvOut2`.
  * Map back (`assemble`): these images give `RealisesSubsA`, by what `NS` / `SPD` promise about every chain.
-/
import PyhamModel.Model.RealisesAnn
import PyhamModel.Lemmas.ParserState
namespace Pyham

/-! ### the annotation clause can be forgotten -/

mutual
theorem realisesA_realises' (T : STree) (nm : Naming) : (l : SL) → (q : Taxon) → (n : Node) →
    RealisesA T nm q l n → Realises q l n
  | .gene _ _, _, _, h => h
  | .grp _ _ _ subs, q, _, h => by
    obtain ⟨info, d, kids, dups, hn, _, plain, evs, hk, hd, hnd, hs⟩ := h
    exact ⟨info, d, kids, dups, hn, plain, evs, hk, hd, hnd, realisesSubsA_realises' T nm subs q plain evs hs⟩
theorem realisesSubsA_realises' (T : STree) (nm : Naming) : (subs : List Sub) → (q : Taxon) →
    (plain : List Node) → (evs : List (DupRec × List Node)) →
    RealisesSubsA T nm q subs plain evs → RealisesSubs q subs plain evs
  | [], _, _, _, h => h
  | .one i l :: r, q, _, evs, h => by
    obtain ⟨k, plain', hp, hk, hl, hr⟩ := h
    exact ⟨k, plain', hp, hk, realisesA_realises' T nm l (i :: q) k hl,
      realisesSubsA_realises' T nm r q plain' evs hr⟩
  | .dup i _ cs :: r, q, plain, _, h => by
    obtain ⟨rec, ks, evs', he, hm, hpg, hmem, hfl, hc, hr⟩ := h
    exact ⟨rec, ks, evs', he, hm, hpg, hmem, hfl, realisesCopiesA_realises' T nm cs (i :: q) ks hc,
      realisesSubsA_realises' T nm r q plain evs' hr⟩
  | .ann _ :: r, q, plain, evs, h => realisesSubsA_realises' T nm r q plain evs h
theorem realisesCopiesA_realises' (T : STree) (nm : Naming) : (cs : List SL) → (q : Taxon) →
    (ks : List Node) → RealisesCopiesA T nm q cs ks → RealisesCopies q cs ks
  | [], _, _, h => h
  | c :: cs, q, _, h => by
    obtain ⟨k, ks', hk, hc, hr⟩ := h
    exact ⟨k, ks', hk, realisesA_realises' T nm c q k hc, realisesCopiesA_realises' T nm cs q ks' hr⟩
end

/-- annotations of a HOG the loader synthesises: none -/
def Bare (info : HogInfo) : Prop := info.synth = true ∧ info.scores = [] ∧ info.props = []

theorem chainInfo_bare (uid : Nat) (hid : Option String) : Bare (chainInfo uid hid) := ⟨rfl, rfl, rfl⟩

def isWrittenGrp : SL → Bool
  | .grp w _ _ _ => w
  | _ => false

/-! ### pointwise relations between lists, stable under permutation -/

/-- equal length, related position by position (Mathlib's `List.Forall₂`, which core does not have) -/
inductive F2 {α β : Type} (R : α → β → Prop) : List α → List β → Prop
  | nil : F2 R [] []
  | cons {a b as bs} : R a b → F2 R as bs → F2 R (a :: as) (b :: bs)

namespace F2

theorem perm_left {α β : Type} {R : α → β → Prop} {A A' : List α} (hp : A.Perm A') :
    ∀ {B : List β}, F2 R A B → ∃ B', B.Perm B' ∧ F2 R A' B' := by
  induction hp with
  | nil => intro B h; cases h; exact ⟨[], .refl _, .nil⟩
  | cons x _ ih =>
    intro B h
    cases h with
    | cons hr hrest =>
      obtain ⟨B', hp', hf'⟩ := ih hrest
      exact ⟨_ :: B', hp'.cons _, .cons hr hf'⟩
  | swap x y l =>
    intro B h
    cases h with
    | cons hr1 h1 =>
      cases h1 with
      | cons hr2 h2 => exact ⟨_, List.Perm.swap _ _ _, .cons hr2 (.cons hr1 h2)⟩
  | trans _ _ ih1 ih2 =>
    intro B h
    obtain ⟨B1, hp1, hf1⟩ := ih1 h
    obtain ⟨B2, hp2, hf2⟩ := ih2 hf1
    exact ⟨B2, hp1.trans hp2, hf2⟩

theorem append_inv {α β : Type} {R : α → β → Prop} (A1 : List α) {A2 : List α} {B : List β}
    (h : F2 R (A1 ++ A2) B) : ∃ B1 B2, B = B1 ++ B2 ∧ F2 R A1 B1 ∧ F2 R A2 B2 := by
  induction A1 generalizing B with
  | nil => exact ⟨[], B, rfl, .nil, h⟩
  | cons a A1 ih =>
    cases h with
    | cons hr hrest =>
      obtain ⟨B1, B2, rfl, h1, h2⟩ := ih hrest
      exact ⟨_ :: B1, B2, rfl, .cons hr h1, h2⟩

theorem append {α β : Type} {R : α → β → Prop} : {A1 : List α} → {B1 : List β} → {A2 : List α} →
    {B2 : List β} → F2 R A1 B1 → F2 R A2 B2 → F2 R (A1 ++ A2) (B1 ++ B2) := by
  intro A1 B1 A2 B2 h1 h2
  induction h1 with
  | nil => exact h2
  | cons hr _ ih => exact .cons hr ih

theorem length {α β : Type} {R : α → β → Prop} : {A : List α} → {B : List β} → F2 R A B →
    A.length = B.length := by
  intro A B h
  induction h with
  | nil => rfl
  | cons _ _ ih => simp [ih]

theorem mem_right {α β : Type} {R : α → β → Prop} {A : List α} {B : List β} (h : F2 R A B) :
    ∀ b ∈ B, ∃ a ∈ A, R a b := by
  induction h with
  | nil => intro b hb; cases hb
  | cons hr _ ih =>
    intro b hb
    rcases List.mem_cons.mp hb with rfl | hb
    · exact ⟨_, by simp, hr⟩
    · obtain ⟨a, ha, hab⟩ := ih b hb
      exact ⟨a, by simp [ha], hab⟩

theorem map_right {α β γ : Type} {R : α → β → Prop} (f : β → γ) {A : List α} {B : List β}
    (h : F2 R A B) : F2 (fun a c => ∃ b, R a b ∧ c = f b) A (B.map f) := by
  induction h with
  | nil => exact .nil
  | cons hr _ ih => exact .cons ⟨_, hr, rfl⟩ ih

end F2

/-! ### chains of single-child HOGs -/

/-- `top` is `x` wrapped into single-child HOGs at the taxa `ts` (innermost first) -/
inductive Wraps : Node → List Taxon → Node → Prop
  | nil (x : Node) : Wraps x [] x
  | cons {x : Node} {t : Taxon} {ts : List Taxon} {top : Node} (info : HogInfo) (hbare : Bare info) :
      Wraps (.hog info t none [x] []) ts top → Wraps x (t :: ts) top

namespace Wraps

theorem dup_none {x top : Node} {ts : List Taxon} (h : Wraps x ts top) (hx : x.dup = none) :
    top.dup = none := by
  induction h with
  | nil => exact hx
  | cons info _ _ ih => exact ih rfl

theorem snoc_inv (P : List Taxon) {x top : Node} {q : Taxon} (h : Wraps x (P ++ [q]) top) :
    ∃ top' info, Bare info ∧ Wraps x P top' ∧ top = .hog info q none [top'] [] := by
  induction P generalizing x with
  | nil =>
    cases h with
    | cons info hbare h' =>
      cases h'
      exact ⟨x, info, hbare, .nil x, rfl⟩
  | cons t P ih =>
    cases h with
    | cons info hbare h' =>
      obtain ⟨top', info', h0, h1, h2⟩ := ih h'
      exact ⟨top', info', h0, .cons info hbare h1, h2⟩

theorem nil_inv {x top : Node} (h : Wraps x [] top) : top = x := by
  cases h; rfl

end Wraps

/-- the taxa strictly between `e ++ q` and the parent of `q`, youngest first -/
def between : List Nat → Taxon → List Taxon
  | [], _ => []
  | _ :: e, q => (e ++ q) :: between e q

theorem between_snoc (e : List Nat) (j : Nat) (q : Taxon) :
    between (e ++ [j]) q = between e (j :: q) ++ [q] := by
  induction e with
  | nil => simp [between]
  | cons a e ih => simp only [List.cons_append, between, ih, List.append_assoc, List.nil_append]

/-- `t` lies strictly below `p`, with the path written out: the chain `addMissing` builds runs over
    `between e (i :: p)` -/
def OKpath (t p : Taxon) : Prop := ∃ e i, t = e ++ i :: p

namespace OKpath

theorem ne {t p : Taxon} (h : OKpath t p) : t ≠ p := by
  obtain ⟨e, i, rfl⟩ := h
  intro h
  have := congrArg List.length h
  simp at this
  omega

theorem trans {a l p : Taxon} (h1 : OKpath a l) (h2 : OKpath l p) : OKpath a p := by
  obtain ⟨e1, i1, rfl⟩ := h1
  obtain ⟨e2, i2, rfl⟩ := h2
  exact ⟨e1 ++ i1 :: e2, i2, by simp⟩

/-- the left side is the filter by which `closeOg` selects the children the generic pass has to chain up -/
theorem length {t p : Taxon} (h : OKpath t p) : (t.length != p.length + 1) = false ↔ ∃ i, t = i :: p := by
  obtain ⟨e, i, rfl⟩ := h
  cases e with
  | nil => simp
  | cons a e =>
    simp only [List.cons_append, List.length_cons, List.length_append, bne_eq_false_iff_eq]
    constructor
    · intro h; omega
    · rintro ⟨j, hj⟩
      have := congrArg List.length hj
      simp at this
      omega

end OKpath

theorem pathUp_between (e : List Nat) (i : Nat) (p : Taxon) :
    pathUp (e ++ i :: p) p = between e (i :: p) := by
  induction e with
  | nil => simpa [between] using pathUp_adjacent i p
  | cons a e ih =>
    simp only [List.cons_append, pathUp_cons, if_neg (OKpath.ne ⟨e, i, rfl⟩), between, ih]

/-! ### `Realises` does not look at the flag of the node itself -/

theorem realises_setDup {T : STree} {nm : Naming} (q : Taxon) (l : SL) (n : Node) (d : Option Nat)
    (h : RealisesA T nm q l n) : RealisesA T nm q l (n.setDup d) := by
  cases l with
  | gene id loft =>
    obtain ⟨d', rfl⟩ := h
    exact ⟨d, rfl⟩
  | grp w hid label subs =>
    obtain ⟨info, d', kids, dups, rfl, rest⟩ := h
    exact ⟨info, d, kids, dups, rfl, rest⟩

/-! ### exact evaluation of `addMissing` on a proper path -/

theorem addMissing_between (hid : Option String) (q : Taxon) (e : List Nat) (x : Node) (ps : PS)
    (h : x.tx = e ++ q) :
    ∃ top ps', addMissing hid x (between e q) ps = .ok (top, ps') ∧ Wraps x (between e q) top ∧
      top.tx = q ∧ FrA ps ps' ∧ (top.key = x.key ∨ ∃ u, top.key = .h u ∧ ps.next ≤ u ∧ u < ps'.next) := by
  induction e generalizing x ps with
  | nil => exact ⟨x, ps, rfl, .nil x, by simpa using h, FrA.refl _, Or.inl rfl⟩
  | cons a e ih =>
    obtain ⟨top, ps', h1, h2, h3, h4, h5⟩ := ih (Node.hog (chainInfo ps.next hid) (e ++ q) none [x] [])
      (({ ps with next := ps.next + 1 } : PS).register (e ++ q) (.h ps.next)) rfl
    have hup : (x.tx.up != some (e ++ q)) = false := by
      rw [h]; simp [Taxon.up]
    have hn : ps.next + 1 ≤ ps'.next := h4.next
    have h0 : FrA ps (({ ps with next := ps.next + 1 } : PS).register (e ++ q) (.h ps.next)) :=
      ⟨rfl, rfl, rfl, rfl, Nat.le_succ _⟩
    refine ⟨top, ps', ?_, .cons _ (chainInfo_bare _ _) h2, h3, h0.trans h4, Or.inr ?_⟩
    · simp only [between, addMissing, hup, Bool.false_eq_true, if_false]
      exact h1
    · rcases h5 with h5 | ⟨u, hu, h6, h7⟩
      · exact ⟨ps.next, h5, Nat.le_refl _, hn⟩
      · exact ⟨u, hu, Nat.le_of_succ_le h6, h7⟩

/-- `addMissing` toward `p` from a node strictly below `p` -/
theorem addMissing_pathUp (hid : Option String) (p : Taxon) (x : Node) (ps : PS) (h : OKpath x.tx p) :
    ∃ top ps' i, addMissing hid x (pathUp x.tx p) ps = .ok (top, ps') ∧ Wraps x (pathUp x.tx p) top ∧
      top.tx = i :: p ∧ FrA ps ps' ∧
      (top.key = x.key ∨ ∃ u, top.key = .h u ∧ ps.next ≤ u ∧ u < ps'.next) := by
  obtain ⟨e, i, he⟩ := h
  obtain ⟨top, ps', h1, h2, h3, h4, h5⟩ := addMissing_between hid (i :: p) e x ps he
  rw [he, pathUp_between]
  exact ⟨top, ps', i, h1, h2, h3, h4, h5⟩

/-! ### the three repair loops, for children strictly below the level -/

/-- re-homed copy of a duplication whose level is `p`: chained up, flag on the top of the chain -/
def WD (p : Taxon) (d : Nat) (c m : Node) : Prop :=
  ∃ t0, Wraps (c.setDup none) (pathUp c.tx p) t0 ∧ m = t0.setDup (some d)

theorem WD.dup {p : Taxon} {d : Nat} {c m : Node} (h : WD p d c m) : m.dup = some d := by
  obtain ⟨t, _, rfl⟩ := h
  exact setDup_dup _ _

/-- child chained up by the generic pass -/
def VG (p : Taxon) (c t : Node) : Prop := Wraps c (pathUp c.tx p) t

theorem addMissing_unflagged (hid : Option String) (p : Taxon) (c : Node) (ps : PS) (h : OKpath c.tx p) :
    ∃ top ps' i, addMissing hid (c.setDup none) (pathUp c.tx p) ps = .ok (top, ps') ∧
      Wraps (c.setDup none) (pathUp c.tx p) top ∧ top.tx = i :: p ∧ FrA ps ps' ∧
      (top.key = c.key ∨ ∃ u, top.key = .h u ∧ ps.next ≤ u ∧ u < ps'.next) := by
  have := addMissing_pathUp hid p (c.setDup none) ps (by rw [setDup_tx]; exact h)
  rwa [setDup_tx, setDup_key] at this

/-- `R`: the children not flagged `d`; `M`: the member keys already rewritten -/
theorem rehomeDirect_chains (hid : Option String) (p : Taxon) (d : Nat) (cs K : List Node) (mem M : List Key)
    (R : List Node) (ps : PS) (hkn : KN K ps.next) (hK : K.Perm (cs ++ R))
    (hmem : mem.Perm (cs.map Node.key ++ M)) (hpath : ∀ c ∈ cs, OKpath c.tx p) :
    ∃ K' mem' ps' tops, rehomeDirect hid p d cs K mem ps = .ok (K', mem', ps') ∧ K'.Perm (R ++ tops) ∧
      mem'.Perm (M ++ tops.map Node.key) ∧ F2 (WD p d) cs tops ∧ (∀ t ∈ tops, ∃ i, t.tx = i :: p) ∧
      KN K' ps'.next ∧ FrA ps ps' := by
  induction cs generalizing K mem M R ps with
  | nil => exact ⟨K, mem, ps, [], rfl, by simpa using hK, by simpa using hmem, .nil, by simp, hkn, FrA.refl _⟩
  | cons c cs ih =>
    have hcm : mem.contains c.key = true := by simpa using hmem.mem_iff.mpr (by simp)
    obtain ⟨top, ps1, i, h1, h2, h3, h4, h5⟩ := addMissing_unflagged (c.chainId hid) p c ps (hpath c (by simp))
    obtain ⟨hK1, hkn1⟩ := hkn.step (L := cs ++ R) (top := top.setDup (some d)) hK h4.next
      (by rw [setDup_key]; exact h5)
    have hm1 : (mem.erase c.key ++ [top.key]).Perm (cs.map Node.key ++ (M ++ [top.key])) := by
      have := hmem.erase c.key
      simp only [List.map_cons, List.cons_append, List.erase_cons_head] at this
      rw [← List.append_assoc]
      exact this.append_right _
    rw [List.append_assoc] at hK1
    obtain ⟨K', mem', ps', tops, he, hp1, hp2, hf, htx, hkn', hfr⟩ := ih _ _ _ _ ps1 hkn1 hK1 hm1
      (fun c' hc' => hpath c' (by simp [hc']))
    refine ⟨K', mem', ps', top.setDup (some d) :: tops, ?_, ?_, ?_, .cons ⟨top, h2, rfl⟩ hf, ?_, hkn',
      h4.trans hfr⟩
    · simp only [rehomeDirect, bind, Except.bind, h1, hcm, Bool.not_true, Bool.false_eq_true, if_false]
      exact he
    · simpa using hp1
    · simpa [setDup_key] using hp2
    · intro t ht
      rcases List.mem_cons.mp ht with rfl | ht
      · exact ⟨i, by rw [setDup_tx]; exact h3⟩
      · exact htx t ht

/-- `R`: the other children; `mk`: the tops so far, the children of the HOG to be synthesised at `q` -/
theorem rehomeUnder_chains (hid : Option String) (q : Taxon) (cs K mk R : List Node) (ps : PS)
    (hkn : KN K ps.next) (hK : K.Perm (cs ++ R)) (hpath : ∀ c ∈ cs, OKpath c.tx q) :
    ∃ K' ps' tops, rehomeUnder hid q cs K mk ps = .ok (K', mk ++ tops, ps') ∧ K'.Perm R ∧
      F2 (fun c t => Wraps (c.setDup none) (pathUp c.tx q) t) cs tops ∧ KN K' ps.next ∧ FrA ps ps' := by
  induction cs generalizing K mk ps with
  | nil => exact ⟨K, ps, [], by simp [rehomeUnder], by simpa using hK, .nil, hkn, FrA.refl _⟩
  | cons c cs ih =>
    obtain ⟨top, ps1, i, h1, h2, h3, h4, h5⟩ := addMissing_unflagged (c.chainId hid) q c ps (hpath c (by simp))
    obtain ⟨hK1, hkn1⟩ := hkn.erase (L := cs ++ R) hK
    obtain ⟨K', ps', tops, he, hp1, hf, hkn', hfr⟩ := ih _ (mk ++ [top]) ps1 (hkn1.tail.mono h4.next) hK1
      (fun c' hc' => hpath c' (by simp [hc']))
    have hsub : KN K' ps.next := by
      have hs : ∀ k ∈ K', k ∈ K := fun k hk =>
        mem_of_mem_eraseKey (hK1.mem_iff.mpr (List.mem_append_right _ (hp1.mem_iff.mp hk)))
      exact ⟨hkn'.1, fun k hk => hkn.2 k (hs k hk)⟩
    refine ⟨K', ps', top :: tops, ?_, hp1, .cons h2 hf, hsub, h4.trans hfr⟩
    simp only [rehomeUnder, bind, Except.bind, h1]
    rw [he]
    simp

theorem genericPass_chains (hid : Option String) (p : Taxon) (cs K R : List Node) (ps : PS)
    (hkn : KN K ps.next) (hK : K.Perm (cs ++ R)) (hpath : ∀ c ∈ cs, OKpath c.tx p) :
    ∃ K' ps' tops, genericPass hid p cs K ps = .ok (K', ps') ∧ K'.Perm (R ++ tops) ∧
      F2 (VG p) cs tops ∧ KN K' ps'.next ∧ FrA ps ps' := by
  induction cs generalizing K R ps with
  | nil => exact ⟨K, ps, [], rfl, by simpa using hK, .nil, hkn, FrA.refl _⟩
  | cons c cs ih =>
    obtain ⟨top, ps1, i, h1, h2, h3, h4, h5⟩ := addMissing_pathUp (c.chainId hid) p c ps (hpath c (by simp))
    obtain ⟨hK1, hkn1⟩ := hkn.step (L := cs ++ R) hK h4.next h5
    rw [List.append_assoc] at hK1
    obtain ⟨K', ps', tops, he, hp1, hf, hkn', hfr⟩ := ih _ _ ps1 hkn1 hK1
      (fun c' hc' => hpath c' (by simp [hc']))
    refine ⟨K', ps', top :: tops, ?_, by simpa using hp1, .cons h2 hf, hkn', h4.trans hfr⟩
    simp only [genericPass, bind, Except.bind, h1]
    exact he

/-! ### one duplication step, both branches -/

namespace FrA

theorem modMembers {ps ps' : PS} (h : FrA ps ps') (d : Nat) (mem : List Key) :
    FrC ps (ps'.modDup d fun b => { b with members := mem }) ∧
      ∀ d0, d0 ≠ d → (ps'.modDup d fun b => { b with members := mem }).getDup d0 = ps.getDup d0 := by
  have hf : ∀ b : DupBuild, ({ b with members := mem } : DupBuild).did = b.did := fun _ => rfl
  refine ⟨h.toFrC.trans (FrC.modDup _ _ _ hf), fun d0 hd0 => ?_⟩
  rw [getDup_modDup _ _ _ _ hf, if_neg hd0, h.getDup]

end FrA

theorem filter_flag_perm {K A R : List Node} {d : Nat} (hK : K.Perm (A ++ R))
    (hA : ∀ a ∈ A, a.dup = some d) (hR : ∀ k ∈ R, k.dup ≠ some d) :
    (K.filter (fun k => k.dup == some d)).Perm A ∧ K.Perm (K.filter (fun k => k.dup == some d) ++ R) := by
  have h1 : (A ++ R).filter (fun k => k.dup == some d) = A := by
    rw [List.filter_append, List.filter_eq_self.mpr (fun a ha => by simp [hA a ha]),
      List.filter_eq_nil_iff.mpr (fun k hk => by simpa using hR k hk), List.append_nil]
  have h2 : (K.filter (fun k => k.dup == some d)).Perm A := by
    have := hK.filter (fun k => k.dup == some d)
    rwa [h1] at this
  exact ⟨h2, hK.trans (h2.symm.append_right R)⟩

/-- a duplication as seen when the enclosing written group is closed -/
structure DupEv where
  did : Nat
  pgid : Option String
  lvl : Taxon
  A : List Node

/-- the store holds the event with the keys of its apparent members -/
def EvSt (ps : PS) (ev : DupEv) : Prop :=
  ps.getDup ev.did =
    some { did := ev.did, pgid := ev.pgid, members := ev.A.map Node.key, mrca := some ev.lvl }

structure EvOk (p : Taxon) (ps : PS) (ev : DupEv) : Prop where
  flag : ∀ a ∈ ev.A, a.dup = some ev.did
  stored : EvSt ps ev
  lvl : ev.lvl = p ∨ OKpath ev.lvl p
  path : ∀ a ∈ ev.A, OKpath a.tx ev.lvl

namespace EvOk

theorem congr {p : Taxon} {ps ps' : PS} {ev : DupEv} (h : EvOk p ps ev)
    (hg : ps'.getDup ev.did = ps.getDup ev.did) : EvOk p ps' ev :=
  ⟨h.flag, hg.trans h.stored, h.lvl, h.path⟩

theorem path_top {p : Taxon} {ps : PS} {ev : DupEv} (h : EvOk p ps ev) : ∀ a ∈ ev.A, OKpath a.tx p := by
  intro a ha
  rcases h.lvl with hl | hl
  · rw [← hl]; exact h.path a ha
  · exact (h.path a ha).trans hl

end EvOk

structure RecOf (ev : DupEv) (rec : DupRec) (ks : List Node) : Prop where
  did : rec.did = ev.did
  pgid : rec.pgid = ev.pgid
  mrca : rec.mrca = ev.lvl
  members : rec.members.Perm (ks.map Node.key)
  copies : ∃ A', A'.Perm ev.A ∧ F2 (WD ev.lvl ev.did) A' ks

/-- the synthesised HOG of a duplication below the level of the written group -/
def MH (ev : DupEv) (g : Node) : Prop :=
  ∃ info rec mk, g = Node.hog info ev.lvl none mk [rec] ∧ Bare info ∧ RecOf ev rec mk

namespace MH

theorem dup_none {ev : DupEv} {g : Node} (h : MH ev g) : g.dup = none := by
  obtain ⟨info, rec, mk, rfl, _⟩ := h
  rfl

theorem tx {ev : DupEv} {g : Node} (h : MH ev g) : g.tx = ev.lvl := by
  obtain ⟨info, rec, mk, rfl, _⟩ := h
  rfl

end MH

/-- what the duplication pass makes of an event: a record plus re-homed copies, or one new HOG -/
inductive EvOut1 (p : Taxon) (ev : DupEv) : Option DupRec × List Node → Prop
  | direct {rec : DupRec} {tops : List Node} : ev.lvl = p → RecOf ev rec tops →
      (∀ t ∈ tops, ∃ i, t.tx = i :: p) → EvOut1 p ev (some rec, tops)
  | below {g : Node} : ev.lvl ≠ p → MH ev g → EvOut1 p ev (none, [g])

namespace EvOut1

theorem okpath {p : Taxon} {ev : DupEv} {o : Option DupRec × List Node} (h : EvOut1 p ev o)
    (hl : ev.lvl = p ∨ OKpath ev.lvl p) : ∀ k ∈ o.2, OKpath k.tx p := by
  intro k hk
  cases h with
  | direct _ _ htx =>
    obtain ⟨i, hi⟩ := htx k hk
    exact ⟨[], i, hi⟩
  | below hne hg =>
    rw [List.mem_singleton.mp hk, hg.tx]
    exact hl.resolve_left hne

theorem dup {p : Taxon} {ev : DupEv} {o : Option DupRec × List Node} (h : EvOut1 p ev o) :
    ∀ k ∈ o.2, k.dup = none ∨ k.dup = some ev.did := by
  intro k hk
  cases h with
  | direct _ hrec _ =>
    obtain ⟨A', _, hf⟩ := hrec.copies
    obtain ⟨a, _, ha⟩ := hf.mem_right k hk
    exact Or.inr ha.dup
  | below _ hg =>
    rw [List.mem_singleton.mp hk]
    exact Or.inl hg.dup_none

end EvOut1

theorem dupStep_event (hid : Option String) (p : Taxon) (st : CloseSt) (ev : DupEv) (R : List Node)
    (hkn : KN st.kids st.ps.next) (hK : st.kids.Perm (ev.A ++ R)) (hR : ∀ k ∈ R, k.dup ≠ some ev.did)
    (hev : EvOk p st.ps ev) :
    ∃ st' o, dupStep hid p st ev.did = .ok st' ∧ st'.kids.Perm (R ++ o.2) ∧
      st'.dups = st.dups ++ o.1.toList ∧ EvOut1 p ev o ∧ KN st'.kids st'.ps.next ∧ FrC st.ps st'.ps ∧
      ∀ d0, d0 ≠ ev.did → st'.ps.getDup d0 = st.ps.getDup d0 := by
  obtain ⟨hch, hK'⟩ := filter_flag_perm hK hev.flag hR
  have hg : st.ps.getDup ev.did = some _ := hev.stored
  have hsame := sameKeys_of_perm (hch.map Node.key).symm
  have hpath : ∀ c ∈ st.kids.filter (fun k => k.dup == some ev.did), OKpath c.tx ev.lvl :=
    fun c hc => hev.path c (hch.mem_iff.mp hc)
  by_cases hl : ev.lvl = p
  · subst hl
    obtain ⟨K', mem', ps', tops, he, hp1, hp2, hf, htx, hkn', hfr⟩ := rehomeDirect_chains hid ev.lvl ev.did _
      st.kids (ev.A.map Node.key) [] R st.ps hkn hK' (by simpa using (hch.map Node.key).symm) hpath
    obtain ⟨hfrc, hgd⟩ := hfr.modMembers ev.did mem'
    refine ⟨⟨K', st.dups ++ [⟨ev.did, ev.pgid, ev.lvl, mem'⟩],
        ps'.modDup ev.did fun b => { b with members := mem' }⟩, (some _, tops), ?_, hp1, rfl,
      .direct rfl ⟨rfl, rfl, rfl, by simpa using hp2, _, hch, hf⟩ htx, hkn', hfrc, hgd⟩
    simp only [dupStep_eq, dupDirect, bind, Except.bind, hg, hsame, Bool.not_true, Bool.false_eq_true, if_false,
      bne_self_eq_false, he]
  · obtain ⟨K', ps', tops, he, hp1, hf, hkn', hfr⟩ := rehomeUnder_chains hid ev.lvl _ st.kids [] R
      (({ st.ps with next := st.ps.next + 1 } : PS).register ev.lvl (.h st.ps.next))
      (hkn.mono (Nat.le_succ _)) hK' hpath
    have hn' : st.ps.next + 1 ≤ ps'.next := hfr.next
    -- the counter of the state the loop started from, read off
    have hkn' : KN K' (st.ps.next + 1) := hkn'
    obtain ⟨hfrc, hgd⟩ := hfr.modMembers ev.did ((tops.map (Node.setDup (some ev.did))).map Node.key)
    refine ⟨⟨K' ++ [Node.hog (chainInfo st.ps.next hid) ev.lvl none _ [⟨ev.did, ev.pgid, ev.lvl, _⟩]],
        st.dups, ps'.modDup ev.did fun b =>
          { b with members := (tops.map (Node.setDup (some ev.did))).map Node.key }⟩, (none, [_]), ?_,
      hp1.append_right _, (List.append_nil _).symm,
      .below hl ⟨_, _, _, rfl, chainInfo_bare _ _, rfl, rfl, rfl, .refl _, _, hch, F2.map_right _ hf⟩,
      ?_, ⟨hfrc.pstack, hfrc.inpg, hfrc.cur, Nat.le_of_succ_le hfrc.next, hfrc.dids⟩, hgd⟩
    · have hne : (ev.lvl != p) = true := by simpa using hl
      simp only [dupStep_eq, dupUnder, bind, Except.bind, hg, hsame, Bool.not_true, Bool.false_eq_true, if_false,
        hne, if_true, he, List.nil_append]
    · apply KN.append_fresh (N' := ps'.next) hkn' hn'
      refine ⟨?_, ?_⟩
      · intro hmem
        obtain ⟨k, hk1, hk2⟩ := List.mem_map.mp hmem
        have hkK : k ∈ st.kids := hK'.mem_iff.mpr (List.mem_append_right _ (hp1.mem_iff.mp hk1))
        have := hkn.2 k hkK st.ps.next hk2
        omega
      · intro u hu
        cases hu
        exact hn'

/-! ### all duplication steps -/

theorem dupSteps_events (hid : Option String) (p : Taxon) (evs : List DupEv) (st : CloseSt) (R : List Node)
    (hkn : KN st.kids st.ps.next) (hK : st.kids.Perm (R ++ evs.flatMap (·.A)))
    (hnd : (evs.map (·.did)).Nodup) (hR : ∀ k ∈ R, ∀ ev ∈ evs, k.dup ≠ some ev.did)
    (hev : ∀ ev ∈ evs, EvOk p st.ps ev) :
    ∃ st' outs, dupSteps hid p (evs.map (·.did)) st = .ok st' ∧ st'.kids.Perm (R ++ outs.flatMap (·.2)) ∧
      st'.dups = st.dups ++ outs.filterMap (·.1) ∧ F2 (EvOut1 p) evs outs ∧
      KN st'.kids st'.ps.next ∧ FrC st.ps st'.ps ∧
      ∀ d0, d0 ∉ evs.map (·.did) → st'.ps.getDup d0 = st.ps.getDup d0 := by
  induction evs generalizing st R with
  | nil => exact ⟨st, [], rfl, by simpa using hK, by simp, .nil, hkn, FrC.refl _, fun _ _ => rfl⟩
  | cons ev evs ih =>
    simp only [List.map_cons, List.nodup_cons] at hnd
    have hne_of : ∀ ev' ∈ evs, ev'.did ≠ ev.did := by
      intro ev' he' heq
      exact hnd.1 (heq ▸ List.mem_map.mpr ⟨ev', he', rfl⟩)
    have hR1 : ∀ k ∈ R ++ evs.flatMap (·.A), k.dup ≠ some ev.did := by
      intro k hk
      rcases List.mem_append.mp hk with hk | hk
      · exact hR k hk ev (by simp)
      · obtain ⟨ev', he', hk'⟩ := List.mem_flatMap.mp hk
        rw [(hev ev' (by simp [he'])).flag k hk']
        intro h
        exact hne_of ev' he' (by simpa using h)
    obtain ⟨st1, o, h1, h2, h3, h4, h6, h7, h8⟩ := dupStep_event hid p st ev (R ++ evs.flatMap (·.A)) hkn
      (hK.trans (by simpa using List.perm_append_comm_assoc _ _ _)) hR1 (hev ev (by simp))
    obtain ⟨st', outs, i1, i2, i3, i4, i6, i7, i8⟩ := ih st1 (R ++ o.2) h6
      (h2.trans (by
        simp only [List.append_assoc]
        exact List.Perm.append_left _ List.perm_append_comm))
      hnd.2
      (by
        intro k hk ev' he'
        rcases List.mem_append.mp hk with hk | hk
        · exact hR k hk ev' (by simp [he'])
        · rcases h4.dup k hk with h | h
          · rw [h]; simp
          · rw [h]
            intro heq
            exact hne_of ev' he' (by simpa using heq.symm))
      (fun ev' he' => (hev ev' (by simp [he'])).congr (h8 _ (hne_of ev' he')))
    refine ⟨st', o :: outs, ?_, ?_, ?_, .cons h4 i4, i6, h7.trans i7, ?_⟩
    · simp only [List.map_cons, dupSteps, bind, Except.bind, h1]
      exact i1
    · simpa [List.append_assoc] using i2
    · rw [i3, h3]
      obtain ⟨o1, o2⟩ := o
      cases o1 <;> simp
    · intro d0 hd0
      simp only [List.map_cons, List.mem_cons, not_or] at hd0
      rw [i8 d0 hd0.2, h8 d0 hd0.1]

/-! ### the level of a written group -/

/-- the step of the fold in `liftLevel` / `ruleLevel` -/
def lstep (lv m : Taxon) : Taxon := if isProperAncestor m lv then m else lv

theorem lstep_idem (lv m : Taxon) : lstep (lstep lv m) m = lstep lv m := by
  unfold lstep
  by_cases h : isProperAncestor m lv = true
  · have : isProperAncestor m m = false := by
      cases hh : isProperAncestor m m with
      | false => rfl
      | true => exact absurd rfl ((isProperAncestor_iff m m).mp hh).2
    simp [h, this]
  · simp [h]

theorem liftLevel_append (ps : PS) (A B : List Node) (lv : Taxon) :
    liftLevel ps (A ++ B) lv = (liftLevel ps A lv).bind (liftLevel ps B) := by
  induction A generalizing lv with
  | nil => rfl
  | cons k A ih =>
    simp only [List.cons_append, liftLevel]
    split
    · exact ih lv
    · split
      · rfl
      · split
        · rfl
        · exact ih _

theorem liftLevel_congr (ps ps' : PS) : (K : List Node) → (lv : Taxon) →
    (∀ k ∈ K, ∀ d, k.dup = some d → ps'.getDup d = ps.getDup d) →
    liftLevel ps' K lv = liftLevel ps K lv := by
  intro K
  induction K with
  | nil => intro _ _; rfl
  | cons k K ih =>
    intro lv h
    have ih := fun lv => ih lv (fun k hk => h k (by simp [hk]))
    cases hd : k.dup with
    | none => simp only [liftLevel, hd, ih]
    | some d =>
      simp only [liftLevel, hd, h k (by simp) d hd]
      split
      · rfl
      · split
        · rfl
        · exact ih _

theorem liftLevel_block (ps : PS) (d : Nat) (b : DupBuild) (m : Taxon) (hg : ps.getDup d = some b)
    (hm : b.mrca = some m) (A : List Node) (lv : Taxon) (hne : A ≠ []) (hA : ∀ a ∈ A, a.dup = some d) :
    liftLevel ps A lv = .ok (lstep lv m) := by
  induction A generalizing lv with
  | nil => exact absurd rfl hne
  | cons a A ih =>
    have h1 : liftLevel ps (a :: A) lv = liftLevel ps A (lstep lv m) := by
      simp only [liftLevel, hA a (by simp), hg, hm, lstep]
    rw [h1]
    cases A with
    | nil => rfl
    | cons a' A' => rw [ih (lstep lv m) (by simp) (fun x hx => hA x (by simp [hx])), lstep_idem]

theorem liftLevel_unflagged (ps : PS) (x : Node) (lv : Taxon) (h : x.dup = none) :
    liftLevel ps [x] lv = .ok lv := by
  simp [liftLevel, h]

/-- `NamesInj` excludes the collapse branch of `inferLevel`: with a single child taxon it compares the TaxRange
    label, the name of `p`, with the name of the child's taxon, which lies strictly below `p` -/
theorem inferLevel_rule (env : Env) (hn : NamesInj env.T env.nm) (hb : HogBuild) (p : Taxon)
    (spill : List Taxon)
    (hp : ∃ s, env.T.nameAt env.nm p = some s)
    (hprops : hb.info.props.lookup "TaxRange" = none ∨
      hb.info.props.lookup "TaxRange" = some (nameOrEmpty env.T env.nm p))
    (htx : ∀ k ∈ hb.kids, OKpath k.tx p)
    (hrule : ruleLevel (hb.kids.map Node.tx) spill = some p) :
    ∃ lv0, inferLevel env hb = .ok (.at lv0) ∧ spill.foldl lstep lv0 = p := by
  unfold ruleLevel at hrule
  unfold inferLevel
  cases hd : dedup (hb.kids.map Node.tx) with
  | nil => rw [hd] at hrule; simp at hrule
  | cons a r =>
    cases r with
    | nil =>
      rw [hd] at hrule
      have ha : a ∈ hb.kids.map Node.tx := (mem_dedup a _).mp (by rw [hd]; simp)
      obtain ⟨k, hk, rfl⟩ := List.mem_map.mp ha
      have hne := (htx k hk).ne
      cases hup : k.tx.up with
      | none => simp [hup] at hrule
      | some u =>
        simp only [hup, Option.map_some, Option.some.injEq] at hrule
        refine ⟨u, ?_, hrule⟩
        simp only
        split
        · rename_i v n hv hg
          have hvn : (v == n) = false := by
            simp only [beq_eq_false_iff_ne, ne_eq]
            intro he
            subst he
            rcases hprops with h1 | h1
            · rw [h1] at hv; cases hv
            · rw [h1] at hv
              obtain ⟨s, hs⟩ := hp
              have h2 : nameOrEmpty env.T env.nm p = s := by simp [nameOrEmpty, hs]
              rw [h2] at hv
              cases hv
              exact hne (hn _ _ _ hg hs)
          simp [hvn, hup]
        · simp [hup]
    | cons b r' =>
      rw [hd] at hrule
      simp only [Option.map_some, Option.some.injEq] at hrule
      exact ⟨_, rfl, hrule⟩

/-! ### closing a written group: all passes together -/

namespace F2

theorem comp {α β γ : Type} {R : α → β → Prop} {S : β → γ → Prop} {A : List α} {B : List β}
    {C : List γ} (h : F2 R A B) (h' : F2 S B C) : F2 (fun a c => ∃ b, R a b ∧ S b c) A C := by
  induction h generalizing C with
  | nil => cases h'; exact .nil
  | cons hr _ ih =>
    cases h' with
    | cons hs h' => exact .cons ⟨_, hr, hs⟩ (ih h')

/-- the generic pass as a pointwise image: good children are their own image -/
theorem merge_filter {R : Node → Node → Prop} (bad : Node → Bool) (K : List Node) {tops : List Node}
    (hgood : ∀ x ∈ K, bad x = false → R x x) (h : F2 R (K.filter bad) tops) :
    ∃ L, F2 R K L ∧ L.Perm (K.filter (fun x => !bad x) ++ tops) := by
  induction K generalizing tops with
  | nil => cases h; exact ⟨[], .nil, .refl _⟩
  | cons x K ih =>
    have hgood' : ∀ y ∈ K, bad y = false → R y y := fun y hy => hgood y (by simp [hy])
    cases hb : bad x with
    | true =>
      simp only [List.filter_cons, hb, if_true] at h
      cases h with
      | @cons _ t _ tops' hr hrest =>
        obtain ⟨L, h1, h2⟩ := ih hgood' hrest
        refine ⟨t :: L, .cons hr h1, ?_⟩
        simp only [List.filter_cons, hb, Bool.not_true, Bool.false_eq_true, if_false]
        exact (h2.cons t).trans List.perm_middle.symm
    | false =>
      simp only [List.filter_cons, hb, Bool.false_eq_true, if_false] at h
      obtain ⟨L, h1, h2⟩ := ih hgood' h
      refine ⟨x :: L, .cons (hgood x (by simp) hb) h1, ?_⟩
      simp only [List.filter_cons, hb, Bool.not_false, if_true, List.cons_append]
      exact h2.cons x

theorem flatMap_inv {R : Node → Node → Prop} (outs : List (Option DupRec × List Node)) {B : List Node}
    (h : F2 R (outs.flatMap (·.2)) B) :
    ∃ outs2 : List (Option DupRec × List Node), B = outs2.flatMap (·.2) ∧
      F2 (fun o o2 => o2.1 = o.1 ∧ F2 R o.2 o2.2) outs outs2 := by
  induction outs generalizing B with
  | nil => cases h; exact ⟨[], rfl, .nil⟩
  | cons o outs ih =>
    simp only [List.flatMap_cons] at h
    obtain ⟨B1, B2, rfl, h1, h2⟩ := F2.append_inv _ h
    obtain ⟨outs2, rfl, h3⟩ := ih h2
    exact ⟨(o.1, B1) :: outs2, by simp, .cons ⟨rfl, h1⟩ h3⟩

theorem filterMap_fst {R : List Node → List Node → Prop} {outs outs2 : List (Option DupRec × List Node)}
    (h : F2 (fun o o2 => o2.1 = o.1 ∧ R o.2 o2.2) outs outs2) :
    outs2.filterMap (·.1) = outs.filterMap (·.1) := by
  induction h with
  | nil => rfl
  | cons hr _ ih => simp only [List.filterMap_cons, hr.1, ih]

theorem vg_adjacent {p : Taxon} {tops L : List Node} (h : F2 (VG p) tops L)
    (htx : ∀ t ∈ tops, ∃ i, t.tx = i :: p) : L = tops := by
  induction h with
  | nil => rfl
  | @cons a b as bs hr _ ih =>
    obtain ⟨i, hi⟩ := htx a (by simp)
    unfold VG at hr
    rw [hi, pathUp_adjacent] at hr
    rw [hr.nil_inv, ih (fun t ht => htx t (by simp [ht]))]

end F2

/-- an event after both the duplication pass and the generic pass -/
def EvOut2 (p : Taxon) (ev : DupEv) (o2 : Option DupRec × List Node) : Prop :=
  ∃ o, EvOut1 p ev o ∧ o2.1 = o.1 ∧ F2 (VG p) o.2 o2.2

namespace EvOut2

theorem direct {p : Taxon} {ev : DupEv} {o2 : Option DupRec × List Node} (h : EvOut2 p ev o2)
    (hl : ev.lvl = p) : ∃ rec tops, o2 = (some rec, tops) ∧ RecOf ev rec tops := by
  obtain ⟨o21, o22⟩ := o2
  obtain ⟨o, ho, rfl, hvg⟩ := h
  cases ho with
  | below hne _ => exact absurd hl hne
  | @direct rec tops _ hrec htx =>
    have hL : o22 = tops := F2.vg_adjacent hvg htx
    exact ⟨rec, tops, by rw [hL], hrec⟩

theorem below {p : Taxon} {ev : DupEv} {o2 : Option DupRec × List Node} (h : EvOut2 p ev o2)
    (hne : ev.lvl ≠ p) : ∃ g n, o2 = (none, [n]) ∧ MH ev g ∧ Wraps g (pathUp ev.lvl p) n ∧ n.dup = none := by
  obtain ⟨o21, o22⟩ := o2
  obtain ⟨o, ho, rfl, hvg⟩ := h
  cases ho with
  | direct hl _ _ => exact absurd hl hne
  | @below g _ hg =>
    cases hvg with
    | @cons _ n _ _ hv hnil =>
      cases hnil
      unfold VG at hv
      rw [hg.tx] at hv
      exact ⟨g, n, rfl, hg, hv, hv.dup_none hg.dup_none⟩

end EvOut2

theorem VG.self_of_adjacent {p : Taxon} {x : Node} {i : Nat} (h : x.tx = i :: p) : VG p x x := by
  unfold VG
  rw [h, pathUp_adjacent]
  exact .nil x

/-- `U`: the unflagged children; `evs`: the events, in the order of `dupGroups`; `spill`: their levels as the
    history gives them, which `liftLevel` folds into the level (`hlift`) -/
theorem closeOg_rule (env : Env) (hn : NamesInj env.T env.nm) (top : Bool) (hb : HogBuild) (ps : PS)
    (p : Taxon) (evs : List DupEv) (U : List Node) (spill : List Taxon)
    (hp : ∃ s, env.T.nameAt env.nm p = some s)
    (hprops : hb.info.props.lookup "TaxRange" = none ∨
      hb.info.props.lookup "TaxRange" = some (nameOrEmpty env.T env.nm p))
    (hkn : KN hb.kids ps.next) (hK : hb.kids.Perm (U ++ evs.flatMap (·.A)))
    (hU : ∀ u ∈ U, u.dup = none ∧ OKpath u.tx p)
    (hdg : dupGroups hb.kids = evs.map (·.did)) (hev : ∀ ev ∈ evs, EvOk p ps ev)
    (hrule : ruleLevel (hb.kids.map Node.tx) spill = some p)
    (hlift : ∀ lv, liftLevel ps hb.kids lv = .ok (spill.foldl lstep lv)) :
    ∃ Kf U' outs2 ps',
      closeOg env top hb ps = .ok ([Node.hog hb.info p hb.dup Kf (outs2.filterMap (·.1))], ps') ∧
      Kf.Perm (U' ++ outs2.flatMap (·.2)) ∧ F2 (VG p) U U' ∧ F2 (EvOut2 p) evs outs2 ∧
      FrC ps ps' ∧ ∀ d0, d0 ∉ evs.map (·.did) → ps'.getDup d0 = ps.getDup d0 := by
  have htx : ∀ k ∈ hb.kids, OKpath k.tx p := by
    intro k hk
    rcases List.mem_append.mp (hK.mem_iff.mp hk) with h | h
    · exact (hU k h).2
    · obtain ⟨ev, he, hke⟩ := List.mem_flatMap.mp h
      exact (hev ev he).path_top k hke
  obtain ⟨lv0, hinf, hfold⟩ := inferLevel_rule env hn hb p spill hp hprops htx hrule
  have hl : liftLevel ps hb.kids lv0 = .ok p := by rw [hlift lv0, hfold]
  have hdn : (evs.map (·.did)).Nodup := by rw [← hdg]; exact dedup_nodup _
  obtain ⟨st1, outs, s1, s2, s3, s4, s6, s7, s8⟩ := dupSteps_events hb.info.hid p evs
    { kids := hb.kids, dups := [], ps := ps.register p (.h hb.info.uid) } U hkn hK hdn
    (fun k hk ev _ => by rw [(hU k hk).1]; simp) (fun ev he => (hev ev he).congr rfl)
  have hok1 : ∀ k ∈ st1.kids, OKpath k.tx p := by
    intro k hk
    rcases List.mem_append.mp (s2.mem_iff.mp hk) with h | h
    · exact (hU k h).2
    · obtain ⟨o, ho, hko⟩ := List.mem_flatMap.mp h
      obtain ⟨ev, he, heo⟩ := s4.mem_right o ho
      exact heo.okpath (hev ev he).lvl k hko
  have hsplit : st1.kids.Perm (st1.kids.filter (fun c => c.tx.length != p.length + 1) ++
      st1.kids.filter (fun c => !(c.tx.length != p.length + 1))) :=
    (List.filter_append_perm _ _).symm
  obtain ⟨K2, ps2, tops, g1, g2, g3, g4, g5⟩ := genericPass_chains hb.info.hid p
    (st1.kids.filter (fun c => c.tx.length != p.length + 1)) st1.kids _ st1.ps s6 hsplit
    (fun c hc => hok1 c (List.mem_filter.mp hc).1)
  obtain ⟨L, m1, m2⟩ := F2.merge_filter (R := VG p) (fun c => c.tx.length != p.length + 1) st1.kids
    (fun x hx hgood => by
      obtain ⟨i, hi⟩ := (hok1 x hx).length.mp hgood
      exact VG.self_of_adjacent hi) g3
  obtain ⟨L2, t1, t2⟩ := F2.perm_left s2 m1
  obtain ⟨U', O', rfl, t3, t4⟩ := F2.append_inv _ t2
  obtain ⟨outs2, rfl, t5⟩ := F2.flatMap_inv outs t4
  refine ⟨K2, U', outs2, ps2, ?_, (g2.trans m2.symm).trans t1, t3, F2.comp s4 t5, ?_, ?_⟩
  · simp only [closeOg, bind, Except.bind, hinf, hl, hdg, s1, g1, s3, List.nil_append,
      F2.filterMap_fst t5]
  · exact ((FrC.register ps p (.h hb.info.uid)).trans s7).trans g5.toFrC
  · intro d0 hd0
    rw [g5.getDup, s8 d0 hd0]
    rfl

/-! ### what the loader sees of a lineage: apparent nodes -/

/-- apparent node of a lineage that spills no paralogGroup into the enclosing element: it sits at
    `e ++ q`, and every way of chaining it up to `q` realises the lineage -/
def NS (T : STree) (nm : Naming) (q : Taxon) (l : SL) (x : Node) : Prop :=
  ∃ e, x.tx = e ++ q ∧ appTaxa q l = [x.tx] ∧
    ∀ top, Wraps (x.setDup none) (between e q) top → RealisesA T nm q l top

def NSCopies (T : STree) (nm : Naming) (q : Taxon) : List SL → List Node → Prop
  | [], A => A = []
  | c :: cs, A => ∃ a A', A = a :: A' ∧ NS T nm q c a ∧ NSCopies T nm q cs A'

/-- a lineage ending in an unwritten group that consists of one duplication: the event spills -/
def SPD (T : STree) (nm : Naming) (q : Taxon) (l : SL) (ev : DupEv) : Prop :=
  ∃ e, ev.lvl = e ++ q ∧ spillSL q l = [ev.lvl] ∧ appTaxa q l = ev.A.map Node.tx ∧ ev.A ≠ [] ∧
    (∀ a ∈ ev.A, a.dup = some ev.did ∧ OKpath a.tx ev.lvl) ∧
    ∀ g, MH ev g → ∀ top, Wraps g (between e q) top → RealisesA T nm q l top

/-- the children of a written group at `p` right after reading: unflagged apparent nodes `U` and
    events `evs`, both in file order -/
def RD (T : STree) (nm : Naming) (p : Taxon) : List Sub → List Node → List DupEv → Prop
  | [], U, evs => U = [] ∧ evs = []
  | .one i l :: r, U, evs =>
      (∃ x U', U = x :: U' ∧ x.dup = none ∧ NS T nm (i :: p) l x ∧ RD T nm p r U' evs) ∨
      (∃ ev evs', evs = ev :: evs' ∧ SPD T nm (i :: p) l ev ∧ RD T nm p r U evs')
  | .dup i pgid cs :: r, U, evs =>
      ∃ ev evs', evs = ev :: evs' ∧ ev.lvl = p ∧ ev.pgid = pgid ∧ NSCopies T nm (i :: p) cs ev.A ∧
        RD T nm p r U evs'
  | .ann _ :: r, U, evs => RD T nm p r U evs

theorem RD.plain {T : STree} {nm : Naming} {p : Taxon} {subs : List Sub} {U : List Node} {evs : List DupEv}
    (h : RD T nm p subs U evs) : ∀ u ∈ U, u.dup = none ∧ OKpath u.tx p := by
  induction subs generalizing U evs with
  | nil =>
    obtain ⟨rfl, _⟩ := h
    simp
  | cons s r ih =>
    cases s with
    | one i l =>
      rcases h with ⟨x, U0, rfl, hd, ⟨e, e1, _⟩, h'⟩ | ⟨ev, evs', rfl, _, h'⟩
      · intro u hu
        rcases List.mem_cons.mp hu with rfl | hu
        · exact ⟨hd, e, i, e1⟩
        · exact ih h' u hu
      · exact ih h'
    | dup i pgid cs =>
      obtain ⟨ev, evs', rfl, _, _, _, h'⟩ := h
      exact ih h'
    | ann _ => exact ih h

theorem realises_chain_step {T : STree} {nm : Naming} (q : Taxon) (j : Nat) (hid : Option String)
    (label : Bool) (l' : SL)
    (info : HogInfo) (hbare : Bare info) (top' : Node) (hd : top'.dup = none)
    (h : RealisesA T nm (j :: q) l' top') :
    RealisesA T nm q (.grp false hid label [.one j l']) (.hog info q none [top'] []) :=
  ⟨info, none, [top'], [], rfl, by simpa [InfoOk, Bare] using hbare, [top'], [], by simp, by simp, by simp,
    top', [], rfl, hd, h, rfl, rfl⟩

theorem NS.unwritten {T : STree} {nm : Naming} {q : Taxon} {j : Nat} {l' : SL} {x : Node}
    (hid : Option String) (label : Bool)
    (h : NS T nm (j :: q) l' x) : NS T nm q (.grp false hid label [.one j l']) x := by
  obtain ⟨e, h1, h2, h3⟩ := h
  refine ⟨e ++ [j], by simpa using h1, (List.append_nil _).trans h2, ?_⟩
  intro top ht
  rw [between_snoc] at ht
  obtain ⟨top', info, hbare, ht', rfl⟩ := Wraps.snoc_inv _ ht
  exact realises_chain_step q j hid label l' info hbare top' (ht'.dup_none (setDup_dup _ _)) (h3 top' ht')

theorem SPD.unwritten {T : STree} {nm : Naming} {q : Taxon} {j : Nat} {l' : SL} {ev : DupEv}
    (hid : Option String) (label : Bool)
    (h : SPD T nm (j :: q) l' ev) : SPD T nm q (.grp false hid label [.one j l']) ev := by
  obtain ⟨e, h1, h2, h3, h4, h5, h6⟩ := h
  refine ⟨e ++ [j], by simpa using h1, (List.append_nil _).trans h2, (List.append_nil _).trans h3, h4, h5, ?_⟩
  intro g hg top ht
  rw [between_snoc] at ht
  obtain ⟨top', info, hbare, ht', rfl⟩ := Wraps.snoc_inv _ ht
  exact realises_chain_step q j hid label l' info hbare top' (ht'.dup_none hg.dup_none) (h6 g hg top' ht')

namespace NSCopies

theorem appTaxa {T : STree} {nm : Naming} (q : Taxon) : (cs : List SL) → (A : List Node) → NSCopies T nm q cs A →
    appTaxaCopies q cs = A.map Node.tx ∧ A.length = cs.length := by
  intro cs
  induction cs with
  | nil =>
    rintro A rfl
    exact ⟨rfl, rfl⟩
  | cons c cs ih =>
    rintro A ⟨a, A', rfl, ⟨e, _, h2, _⟩, hA⟩
    obtain ⟨i1, i2⟩ := ih A' hA
    refine ⟨?_, congrArg (· + 1) i2⟩
    show Pyham.appTaxa q c ++ appTaxaCopies q cs = _
    rw [h2, i1]
    rfl

theorem okpath {T : STree} {nm : Naming} (j : Nat) (q : Taxon) (cs : List SL) (A : List Node)
    (h : NSCopies T nm (j :: q) cs A) : ∀ a ∈ A, OKpath a.tx q := by
  induction cs generalizing A with
  | nil =>
    obtain rfl := h
    simp
  | cons c cs ih =>
    obtain ⟨a, A', rfl, ⟨e, h1, _, _⟩, hA⟩ := h
    intro a' ha'
    rcases List.mem_cons.mp ha' with rfl | ha'
    · exact ⟨e, j, h1⟩
    · exact ih A' hA a' ha'

theorem realises {T : STree} {nm : Naming} (j : Nat) (q : Taxon) (d : Nat) (cs : List SL)
    (A ks : List Node) (hns : NSCopies T nm (j :: q) cs A) (hf : F2 (WD q d) A ks) :
    RealisesCopiesA T nm (j :: q) cs ks := by
  induction cs generalizing A ks with
  | nil =>
    obtain rfl := hns
    cases hf
    rfl
  | cons c cs ih =>
    obtain ⟨a, A0, rfl, ⟨e, h1, _, h3⟩, hA⟩ := hns
    cases hf with
    | @cons _ k _ ks' hr hrest =>
      obtain ⟨t0, ht0, rfl⟩ := hr
      rw [h1, pathUp_between] at ht0
      exact ⟨_, ks', rfl, realises_setDup _ _ _ _ (h3 t0 ht0), ih _ _ hA hrest⟩

end NSCopies

/-- the `dup` clause of `RealisesSubsA`, whatever the order in which the loader met the copies -/
theorem RecOf.realises {T : STree} {nm : Naming} {ev : DupEv} {rec : DupRec} {mk : List Node} (j : Nat)
    (cs : List SL) (h : RecOf ev rec mk) (hns : NSCopies T nm (j :: ev.lvl) cs ev.A) :
    ∃ ks, ks.Perm mk ∧ rec.members.Perm (ks.map Node.key) ∧ (∀ k ∈ ks, k.dup = some rec.did) ∧
      RealisesCopiesA T nm (j :: ev.lvl) cs ks := by
  obtain ⟨A', hp, hf⟩ := h.copies
  obtain ⟨ks, hks, hf'⟩ := F2.perm_left hp hf
  refine ⟨ks, hks.symm, h.members.trans (hks.map Node.key), ?_, NSCopies.realises j _ _ cs _ ks hns hf'⟩
  intro k hk
  obtain ⟨a, _, ha⟩ := hf'.mem_right k hk
  rw [h.did]
  exact ha.dup

theorem SPD.base {T : STree} {nm : Naming} (q : Taxon) (j : Nat) (hid : Option String) (label : Bool)
    (pgid : Option String)
    (cs : List SL) (ev : DupEv) (hl : ev.lvl = q) (hpg : ev.pgid = pgid) (hns : NSCopies T nm (j :: q) cs ev.A)
    (hne : ev.A ≠ []) (hfl : ∀ a ∈ ev.A, a.dup = some ev.did) :
    SPD T nm q (.grp false hid label [.dup j pgid cs]) ev := by
  subst hl
  refine ⟨[], rfl, rfl, (List.append_nil _).trans hns.appTaxa.1, hne,
    fun a ha => ⟨hfl a ha, hns.okpath j _ cs ev.A a ha⟩, ?_⟩
  intro g hg top ht
  cases ht
  obtain ⟨info, rec, mk, rfl, hbare, hrec⟩ := hg
  obtain ⟨ks, k1, k2, k3, k4⟩ := hrec.realises j cs hns
  exact ⟨info, none, mk, [rec], rfl, by simpa [InfoOk, Bare] using hbare, [], [(rec, ks)],
    by simpa using k1.symm, by simp, by simp, rec, ks, [], rfl, hrec.mrca, hrec.pgid.trans hpg, k2, k3, k4, rfl, rfl⟩

theorem wfhSubs_cons_dup {T : STree} {p : Taxon} {i : Nat} {pgid : Option String} {cs : List SL} {r : List Sub} :
    wfhSubs T p (.dup i pgid cs :: r) = true ↔
      cs.length ≥ 2 ∧ wfhCopies T (i :: p) cs = true ∧ wfhSubs T p r = true := by
  show (decide (cs.length ≥ 2) && wfhCopies T (i :: p) cs && wfhSubs T p r) = true ↔ _
  simp [and_assoc]

theorem recoverableSubs_cons_dup {p : Taxon} {i : Nat} {pgid : Option String} {cs : List SL} {r : List Sub} :
    recoverableSubs p (.dup i pgid cs :: r) = true ↔ recoverableCopies (i :: p) cs = true ∧
      ruleDup (appTaxaCopies (i :: p) cs) = some p ∧ recoverableSubs p r = true := by
  show (recoverableCopies (i :: p) cs && ruleDup (appTaxaCopies (i :: p) cs) == some p &&
    recoverableSubs p r) = true ↔ _
  simp [and_assoc]

theorem subs_nil_of_none (r : List Sub) (h1 : realSubs r = 0) (h2 : annElems r = []) : r = [] := by
  cases r with
  | nil => rfl
  | cons s r => cases s <;> simp [realSubs, annElems] at h1 h2

/-! ### reading a paralogGroup whose copies may sit deeper than one level below -/

theorem setMRCA_rule (kids : List Node) (ps : PS) (d : Nat) (b : DupBuild) (ks : List Node) (m : Taxon)
    (hg : ps.getDup d = some b) (hm : b.members = ks.map Node.key)
    (hks : ∀ k ∈ ks, k ∈ kids) (hnd : (kids.map Node.key).Nodup)
    (hrule : ruleDup (ks.map Node.tx) = some m) :
    setMRCA kids ps d = .ok (ps.modDup d fun b => { b with mrca := some m }) := by
  have h1 := mapM_findKey kids hnd ks hks
  unfold ruleDup at hrule
  simp only [setMRCA, hg, hm, h1]
  cases hd : dedup (ks.map Node.tx) with
  | nil => rw [hd] at hrule; simp at hrule
  | cons a r =>
    cases r with
    | nil =>
      rw [hd] at hrule
      simp only at hrule
      simp only [hrule]
    | cons b' r' =>
      rw [hd] at hrule
      simp only at hrule
      simp only [hrule]

theorem pgClose_rule (kids : List Node) (ps : PS) (f : PFrame) (fs : List PFrame) (b : DupBuild)
    (ks : List Node) (m : Taxon)
    (hst : ps.pstack = f :: fs) (hsz : f.size = 0)
    (hg : ps.getDup f.did = some b) (hm : b.members = ks.map Node.key) (hne : ks ≠ [])
    (hks : ∀ k ∈ ks, k ∈ kids) (hnd : (kids.map Node.key).Nodup)
    (hrule : ruleDup (ks.map Node.tx) = some m) :
    ∃ ps', pgClose kids ps = .ok ps' ∧ ps'.pstack = fs ∧ ps'.inPG = fs.head?.map (·.depth) ∧
      ps'.cur = fs.head?.map (·.did) ∧ ps'.next = ps.next ∧
      ps'.dstore.map (·.did) = ps.dstore.map (·.did) ∧
      ∀ d0, ps'.getDup d0 = if d0 = f.did then some { b with mrca := some m } else ps.getDup d0 := by
  have hf : ∀ b : DupBuild, ({ b with mrca := some m } : DupBuild).did = b.did := fun _ => rfl
  have hset := setMRCA_rule kids { ps with pstack := fs } f.did b ks m hg hm hks hnd hrule
  have hlen : (b.members.length == f.size) = false := by
    rw [hm, hsz]
    cases ks with
    | nil => exact absurd rfl hne
    | cons k ks => simp
  have hgd : ∀ d0, (({ ps with pstack := fs } : PS).modDup f.did fun b => { b with mrca := some m }).getDup d0 =
      if d0 = f.did then some { b with mrca := some m } else ps.getDup d0 := by
    intro d0
    rw [getDup_modDup _ _ _ _ hf]
    by_cases h0 : d0 = f.did
    · subst h0
      simp only [if_true]
      show Option.map _ (ps.getDup f.did) = _
      rw [hg]; rfl
    · simp only [if_neg h0]; rfl
  have hdd : (({ ps with pstack := fs } : PS).modDup f.did fun b => { b with mrca := some m }).dstore.map (·.did) =
      ps.dstore.map (·.did) := modDup_dids _ _ _ hf
  refine ⟨{ (({ ps with pstack := fs } : PS).modDup f.did fun b => { b with mrca := some m }) with
    inPG := fs.head?.map (·.depth), cur := fs.head?.map (·.did) }, ?_, rfl, rfl, rfl, rfl, hdd, hgd⟩
  simp only [pgClose, hst, bind, Except.bind, hg, hlen, hset]
  cases fs with
  | nil => rfl
  | cons g gs => rfl

/-- copies of a duplication, read inside the open paralogGroup -/
def CopG (env : Env) (q : Taxon) (len : Nat) (cs : List SL) (G2 : List String) (hb : HogBuild) (ps : PS) :
    Prop :=
  ∃ ks ps', elems env len (encodeCopies env.T env.nm q cs) hb ps = .ok ({ hb with kids := hb.kids ++ ks }, ps') ∧
    NSCopies env.T env.nm q cs ks ∧ (∀ k ∈ ks, k.dup = flagAt len ps) ∧
    KInv (hb.kids ++ ks) ps'.next G2 ∧ Fr ps ps' ∧
    ∀ d0, d0 < ps.next → ps'.getDup d0 =
      if flagAt len ps = some d0 then (ps.getDup d0).map (addMems (ks.map Node.key)) else ps.getDup d0

/-- one `<paralogGroup>` element at nesting level `len + 1`, given what reading its copies yields -/
theorem pgRead (env : Env) (q : Taxon) (j : Nat) (len : Nat) (pgid : Option String) (cs : List SL)
    (G2 : List String) (m : Taxon) (hb : HogBuild) (ps : PS)
    (hinv : PInv len ps) (hk : KInv hb.kids ps.next (genesOfCopies cs ++ G2)) (hlen : cs.length ≥ 2)
    (hrule : ruleDup (appTaxaCopies (j :: q) cs) = some m)
    (hC : ∀ ps0, PInv (len + 1) ps0 → KInv hb.kids ps0.next (genesOfCopies cs ++ G2) →
      CopG env (j :: q) (len + 1) cs G2 hb ps0) :
    ∃ A ps', elem env (len + 1) (.pg pgid (encodeCopies env.T env.nm (j :: q) cs)) hb ps =
        .ok ({ hb with kids := hb.kids ++ A }, ps') ∧
      NSCopies env.T env.nm (j :: q) cs A ∧ A ≠ [] ∧ (∀ a ∈ A, a.dup = some ps.next) ∧
      EvSt ps' ⟨ps.next, pgid, m, A⟩ ∧ ps.next < ps'.next ∧ KInv (hb.kids ++ A) ps'.next G2 ∧ Fr ps ps' ∧
      ∀ d0, d0 < ps.next → ps'.getDup d0 = ps.getDup d0 := by
  have hps0 := pgOpen_spec len pgid ps hinv
  generalize hopen : pgOpen (len + 1) pgid ps = ps0 at hps0
  have o1 : ps0.pstack = { depth := len + 1, did := ps.next, size := 0 } :: ps.pstack := by rw [hps0]
  have o6 : ∀ d0, ps0.getDup d0 =
      if d0 = ps.next then some { did := ps.next, pgid := pgid, members := [], mrca := none }
      else ps.getDup d0 := by
    rw [hps0]
    exact getDup_newDup ps pgid hinv.dids
  have hinv0 : PInv (len + 1) ps0 := by
    rw [hps0]
    refine ⟨?_, rfl, rfl, didsBelow_newDup ps pgid hinv.dids⟩
    intro f hf
    rcases List.mem_cons.mp hf with rfl | h
    · exact Nat.le_refl _
    · exact Nat.le_succ_of_le (hinv.depth f h)
  have hflag : flagAt (len + 1) ps0 = some ps.next := by rw [hps0]; simp [flagAt]
  have hlt0 : ps.next < ps0.next := by rw [hps0]; exact Nat.lt_succ_self _
  obtain ⟨ks, ps1, hel, hns, hks, hkinv1, hfr1, hg1⟩ := hC ps0 hinv0
    (hk.weaken (Nat.le_of_lt hlt0) (fun _ h => h))
  rw [hflag] at hks hg1
  have hlt1 : ps.next < ps1.next := Nat.lt_of_lt_of_le hlt0 hfr1.next
  obtain ⟨hat, hkl⟩ := hns.appTaxa
  have hne : ks ≠ [] :=
    List.ne_nil_of_length_pos (by rw [hkl]; exact Nat.lt_of_lt_of_le Nat.zero_lt_two hlen)
  have hgd : ps1.getDup ps.next = some (addMems (ks.map Node.key)
      { did := ps.next, pgid := pgid, members := [], mrca := none }) := by
    rw [hg1 ps.next hlt0, if_pos rfl, o6, if_pos rfl]; rfl
  obtain ⟨ps2, hcl, c1, c2, c3, c4, c5, c6⟩ := pgClose_rule (hb.kids ++ ks) ps1
    { depth := len + 1, did := ps.next, size := 0 } ps.pstack _ ks m (by rw [hfr1.pstack, o1]) rfl hgd
    (by simp [addMems]) hne (fun k hk' => by simp [hk']) hkinv1.1 (by rw [← hat]; exact hrule)
  have hlt2 : ps.next < ps2.next := by rw [c4]; exact hlt1
  rw [← hopen] at hel
  refine ⟨ks, ps2, elem_pg_ok hel hcl, hns, hne, hks, ?_, hlt2, c4 ▸ hkinv1, ?_, ?_⟩
  · show ps2.getDup ps.next = _
    rw [c6, if_pos rfl]
    simp [addMems]
  · exact ⟨c1, by rw [c2, hinv.inpg], by rw [c3, hinv.cur], Nat.le_of_lt hlt2, by
      intro d hd; rw [c5] at hd; rw [c4]; exact hfr1.dids d hd⟩
  · intro d0 hd0
    have hne0 : d0 ≠ ps.next := Nat.ne_of_lt hd0
    rw [c6, if_neg hne0, hg1 d0 (Nat.lt_trans hd0 hlt0), if_neg (fun h => hne0 (Option.some.inj h).symm), o6,
      if_neg hne0]

/-! ### from the closed children back to the history -/

/-- an event below `p` has become one plain child, the chain over its synthesised HOG; `RD` says which sub-branch
    owns the next apparent node or event -/
theorem assemble {T : STree} {nm : Naming} (p : Taxon) (subs : List Sub) (U : List Node) (evs : List DupEv)
    (U' : List Node) (outs2 : List (Option DupRec × List Node))
    (hrd : RD T nm p subs U evs) (hU' : F2 (VG p) U U')
    (ho : F2 (EvOut2 p) evs outs2) :
    ∃ plain evsF, RealisesSubsA T nm p subs plain evsF ∧
      (plain ++ evsF.flatMap (·.2)).Perm (U' ++ outs2.flatMap (·.2)) ∧
      evsF.map (·.1) = outs2.filterMap (·.1) ∧
      (evsF.map (·.1.did)).Sublist (evs.map (·.did)) := by
  induction subs generalizing U evs U' outs2 with
  | nil =>
    obtain ⟨rfl, rfl⟩ := hrd
    cases hU'
    cases ho
    exact ⟨[], [], ⟨rfl, rfl⟩, by simp, rfl, by simp⟩
  | cons s r ih =>
    cases s with
    | one i l =>
      rcases hrd with ⟨x, U0, rfl, hxd, ⟨e, e1, _, e3⟩, hrd'⟩ |
        ⟨ev, evs', rfl, ⟨e, e1, _, _, _, _, e6⟩, hrd'⟩
      · cases hU' with
        | @cons _ u _ U0' hr hrest =>
          obtain ⟨plain, evsF, h1, h2, h3, h4⟩ := ih U0 evs U0' outs2 hrd' hrest ho
          unfold VG at hr
          rw [e1, pathUp_between] at hr
          have hR : RealisesA T nm (i :: p) l u := e3 u (by rw [setDup_self x none hxd]; exact hr)
          exact ⟨u :: plain, evsF, ⟨u, plain, rfl, hr.dup_none hxd, hR, h1⟩, h2.cons u, h3, h4⟩
      · cases ho with
        | @cons _ o2 _ outs2' hr hrest =>
          obtain ⟨plain, evsF, h1, h2, h3, h4⟩ := ih U evs' U' outs2' hrd' hU' hrest
          obtain ⟨g, n, rfl, hg, hv, hnd⟩ := hr.below (by rw [e1]; exact OKpath.ne ⟨e, i, rfl⟩)
          rw [e1, pathUp_between] at hv
          refine ⟨n :: plain, evsF, ⟨n, plain, rfl, hnd, e6 g hg n hv, h1⟩, ?_, by simpa using h3, ?_⟩
          · simp only [List.flatMap_cons, List.cons_append, List.nil_append]
            exact (h2.cons n).trans List.perm_middle.symm
          · simp only [List.map_cons]
            exact h4.cons _
    | dup i pgid cs =>
      obtain ⟨ev, evs', rfl, hl, hpg, hns, hrd'⟩ := hrd
      cases ho with
      | @cons _ o2 _ outs2' hr hrest =>
        obtain ⟨plain, evsF, h1, h2, h3, h4⟩ := ih U evs' U' outs2' hrd' hU' hrest
        obtain ⟨rec, tops, rfl, hrec⟩ := hr.direct hl
        subst hl
        obtain ⟨ks, k1, k2, k3, k4⟩ := hrec.realises i cs hns
        refine ⟨plain, (rec, ks) :: evsF, ⟨rec, ks, evsF, rfl, hrec.mrca, hrec.pgid.trans hpg, k2, k3, k4, h1⟩,
          ?_, by simpa using h3, ?_⟩
        · simp only [List.flatMap_cons]
          refine (List.perm_append_comm_assoc _ _ _).trans ?_
          refine List.Perm.trans ?_ (List.perm_append_comm_assoc _ _ _)
          exact k1.append h2
        · simp only [List.map_cons, hrec.did]
          exact h4.cons_cons _
    | ann _ => exact ih U evs U' outs2 hrd hU' ho

/-! ### the sub-branches of a written group, and the written group itself -/

/-- the folds `scoresOf` / `propsOf` perform, from an arbitrary starting dictionary -/
def scoresFold (d : List (String × String)) (es : List Elem) : List (String × String) :=
  es.foldl (fun d e => match e with | .score i v => dictSet d i v | _ => d) d
def propsFold (d : List (String × String)) (es : List Elem) : List (String × String) :=
  es.foldl (fun d e => match e with | .prop n v => dictSet d n v | _ => d) d

theorem scoresOf_eq (es : List Elem) : scoresOf es = scoresFold [] es := rfl
theorem propsOf_eq (es : List Elem) : propsOf es = propsFold [] es := rfl

/-- reading the annotation elements `es` turns `i` into `i'` -/
def InfoFold (i i' : HogInfo) (es : List Elem) : Prop :=
  i'.uid = i.uid ∧ i'.hid = i.hid ∧ i'.og = i.og ∧ i'.synth = i.synth ∧
    i'.scores = scoresFold i.scores es ∧ i'.props = propsFold i.props es

namespace InfoFold

theorem nil (i : HogInfo) : InfoFold i i [] := ⟨rfl, rfl, rfl, rfl, rfl, rfl⟩

theorem cons {i i1 i' : HogInfo} {e : Elem} {es : List Elem} (h1 : InfoFold i i1 [e])
    (h2 : InfoFold i1 i' es) : InfoFold i i' (e :: es) := by
  obtain ⟨a1, a2, a3, a4, a5, a6⟩ := h1
  obtain ⟨b1, b2, b3, b4, b5, b6⟩ := h2
  refine ⟨b1.trans a1, b2.trans a2, b3.trans a3, b4.trans a4, ?_, ?_⟩
  · rw [b5, a5]; rfl
  · rw [b6, a6]; rfl

end InfoFold

theorem elem_ann_ok (env : Env) (len : Nat) (e : Elem) (hb : HogBuild) (ps : PS) (he : isAnnElem e = true) :
    ∃ hb1, elem env (len + 1) e hb ps = .ok (hb1, ps) ∧ hb1.kids = hb.kids ∧ hb1.dup = hb.dup ∧
      hb1.info.props.lookup "TaxRange" = hb.info.props.lookup "TaxRange" ∧ InfoFold hb.info hb1.info [e] := by
  cases e with
  | score id v =>
    exact ⟨{ hb with info := { hb.info with scores := dictSet hb.info.scores id v } },
      by simp only [elem], rfl, rfl, rfl, rfl, rfl, rfl, rfl, rfl, rfl⟩
  | prop n v =>
    have hne : n ≠ "TaxRange" := by simpa [isAnnElem] using he
    exact ⟨{ hb with info := { hb.info with props := dictSet hb.info.props n v } },
      by simp only [elem], rfl, rfl, lookup_dictSet_ne _ _ _ (Ne.symm hne) _,
      rfl, rfl, rfl, rfl, rfl, rfl⟩
  | ref _ _ => simp [isAnnElem] at he
  | og _ _ _ => simp [isAnnElem] at he
  | pg _ _ => simp [isAnnElem] at he

/-- `new`: the children read, up to order the apparent nodes `U` and the copies of the events `evs`; their taxa,
    duplication groups and lift of the level are given in file order -/
structure SubsRead (env : Env) (p : Taxon) (len : Nat) (subs : List Sub) (hb : HogBuild) (ps : PS)
    (hb' : HogBuild) (ps' : PS) (new U : List Node) (evs : List DupEv) : Prop where
  run : elems env (len + 1) (encodeSubs env.T env.nm p subs) hb ps = .ok (hb', ps')
  kids : hb'.kids = hb.kids ++ new
  dup : hb'.dup = hb.dup
  props : hb'.info.props.lookup "TaxRange" = hb.info.props.lookup "TaxRange"
  rd : RD env.T env.nm p subs U evs
  perm : new.Perm (U ++ evs.flatMap (·.A))
  groups : dupGroups new = evs.map (·.did)
  evok : ∀ ev ∈ evs, EvOk p ps' ev ∧ ps.next ≤ ev.did ∧ ev.did < ps'.next
  taxa : new.map Node.tx = appTaxaSubs p subs
  lift : ∀ lv, liftLevel ps' new lv = .ok ((spillSubs p subs).foldl lstep lv)
  kinv : KInv hb'.kids ps'.next []
  fr : Fr ps ps'
  old : ∀ d0, d0 < ps.next → ps'.getDup d0 = ps.getDup d0
  info : InfoFold hb.info hb'.info (annElems subs)

def SubsG (env : Env) (p : Taxon) (len : Nat) (subs : List Sub) (hb : HogBuild) (ps : PS) : Prop :=
  ∃ hb' ps' new U evs, SubsRead env p len subs hb ps hb' ps' new U evs

/-- `hB`: the induction hypothesis for the sub-branches -/
theorem writtenGroup_rule (env : Env) (hn : NamesInj env.T env.nm) (q : Taxon) (len : Nat) (top : Bool)
    (hid : Option String) (label : Bool) (subs : List Sub) (ps : PS)
    (hint : env.T.isInternalAt q = true)
    (hrule : ruleLevel (appTaxaSubs q subs) (spillSubs q subs) = some q) (hinv : PInv len ps)
    (hB : ∀ hb ps, PInv len ps → KInv hb.kids ps.next (genesOfSubs subs) → SubsG env q len subs hb ps) :
    ∃ nb ps2 n ps3,
      elems env (len + 1)
        ((if label then [Elem.prop "TaxRange" (nameOrEmpty env.T env.nm q)] else []) ++
          encodeSubs env.T env.nm q subs)
        { info := newInfo ps.next hid none, dup := flagAt len ps, kids := [] }
        (bump { ps with next := ps.next + 1 } (flagAt len ps) (.h ps.next)) = .ok (nb, ps2) ∧
      closeOg env top nb ps2 = .ok ([n], ps3) ∧
      n.tx = q ∧ n.dup = flagAt len ps ∧ n.key = .h ps.next ∧
      RealisesA env.T env.nm q (.grp true hid label subs) n ∧ Fr ps ps3 ∧ ps.next < ps3.next ∧
      ∀ d0, d0 < ps.next → ps3.getDup d0 =
        if flagAt len ps = some d0 then (ps.getDup d0).map (addMems [.h ps.next]) else ps.getDup d0 := by
  generalize hps1 : bump { ps with next := ps.next + 1 } (flagAt len ps) (.h ps.next) = ps1
  obtain ⟨hfr1, hn1⟩ : Fr ps ps1 ∧ ps1.next = ps.next + 1 := by
    rw [← hps1]; exact bump_succ_fr _ _ _ hinv.dids
  have hg1 : ∀ d0, ps1.getDup d0 =
      if flagAt len ps = some d0 then (ps.getDup d0).map (addMems [.h ps.next]) else ps.getDup d0 := by
    intro d0; rw [← hps1, bump_getDup]; rfl
  have hlt1 : ps.next < ps1.next := by rw [hn1]; exact Nat.lt_succ_self _
  have hinv1 : PInv len ps1 := hinv.of_fr hfr1
  have hhid : (newInfo ps.next hid none).hid = hid := by cases hid <;> rfl
  obtain ⟨hb0, hlbl, hk0, hd0, hu0, hp0, hi0⟩ : ∃ hb0 : HogBuild,
      (∀ es, elems env (len + 1)
        ((if label then [Elem.prop "TaxRange" (nameOrEmpty env.T env.nm q)] else []) ++ es)
        { info := newInfo ps.next hid none, dup := flagAt len ps, kids := [] } ps1 =
        elems env (len + 1) es hb0 ps1) ∧ hb0.kids = [] ∧ hb0.dup = flagAt len ps ∧
      hb0.info.uid = ps.next ∧
      (hb0.info.props.lookup "TaxRange" = none ∨
        hb0.info.props.lookup "TaxRange" = some (nameOrEmpty env.T env.nm q)) ∧
      (hb0.info.hid = hid ∧ hb0.info.og = none ∧ hb0.info.synth = false ∧ hb0.info.scores = [] ∧
        hb0.info.props = propsFold []
          (if label then [Elem.prop "TaxRange" (nameOrEmpty env.T env.nm q)] else [])) := by
    cases label with
    | false => exact ⟨_, fun es => rfl, rfl, rfl, rfl, Or.inl rfl, hhid, rfl, rfl, rfl, rfl⟩
    | true =>
      refine ⟨{ info := { newInfo ps.next hid none with
                  props := dictSet (newInfo ps.next hid none).props "TaxRange" (nameOrEmpty env.T env.nm q) },
                dup := flagAt len ps, kids := [] }, fun es => ?_, rfl, rfl, rfl, Or.inr ?_,
                hhid, rfl, rfl, rfl, rfl⟩
      · simp only [if_true, List.cons_append, List.nil_append, elems, elem, bind, Except.bind]
      · simp [newInfo, dictSet]
  obtain ⟨hb', ps2, new, U, evs, h⟩ := hB hb0 ps1 hinv1 (by rw [hk0]; exact KInv.nil _ _)
  have hkids : hb'.kids = new := by rw [h.kids, hk0, List.nil_append]
  have hp : ∃ s, env.T.nameAt env.nm q = some s := nameAt_isSome_of_internal _ _ _ hint
  obtain ⟨Kf, U', outs2, ps3, hclose, c2, c3, c4, c5, c6⟩ := closeOg_rule env hn top hb' ps2 q evs U
    (spillSubs q subs) hp (by rw [h.props]; exact hp0) ⟨h.kinv.1, h.kinv.2.1⟩ (by rw [hkids]; exact h.perm)
    h.rd.plain (by rw [hkids]; exact h.groups) (fun ev he => (h.evok ev he).1)
    (by rw [hkids, h.taxa]; exact hrule) (by rw [hkids]; exact h.lift)
  obtain ⟨plain, evsF, a1, a2, a3, a4⟩ := assemble q subs U evs U' outs2 h.rd c3 c4
  have hfr3 : Fr ps2 ps3 := c5.toFr h.fr.dids
  refine ⟨hb', ps2, _, ps3, ?_, hclose, rfl, h.dup.trans hd0, by simp [Node.key, h.info.1, hu0], ?_,
    (hfr1.trans h.fr).trans hfr3, ?_, ?_⟩
  · rw [hlbl]; exact h.run
  · simp only [RealisesA]
    refine ⟨_, _, _, _, rfl, ?_, plain, evsF, c2.trans a2.symm, by rw [a3], ?_, a1⟩
    · obtain ⟨_, f2, f3, f4, f5, f6⟩ := h.info
      obtain ⟨g1, g2, g3, g4, g5⟩ := hi0
      simp only [InfoOk, if_true]
      refine ⟨f2.trans g1, f3.trans g2, f4.trans g3, ?_, ?_⟩
      · rw [f5, g4, scoresOf_eq]
      · rw [f6, g5, propsOf_eq]
        simp only [propsFold, List.foldl_append]
    · have hdn : (evs.map (·.did)).Nodup := by rw [← h.groups]; exact dedup_nodup _
      exact hdn.sublist a4
  · exact Nat.lt_of_lt_of_le hlt1 (Nat.le_trans h.fr.next hfr3.next)
  · intro d0 hd0'
    rw [c6 d0, h.old d0 (Nat.lt_trans hd0' hlt1), hg1 d0]
    intro hmem
    obtain ⟨e, he, rfl⟩ := List.mem_map.mp hmem
    exact Nat.not_le_of_lt (Nat.lt_trans hd0' hlt1) (h.evok e he).2.1

/-- a lineage that spills nothing, read as one item -/
def LinNS (env : Env) (q : Taxon) (len : Nat) (l : SL) (hb : HogBuild) (ps : PS) : Prop :=
  ∃ n ps', elems env len (encode env.T env.nm q l) hb ps = .ok ({ hb with kids := hb.kids ++ [n] }, ps') ∧
    n.dup = flagAt len ps ∧ NS env.T env.nm q l n ∧ KeySpec l n ps.next ps'.next ∧ Fr ps ps' ∧
    ∀ d0, d0 < ps.next → ps'.getDup d0 =
      if flagAt len ps = some d0 then (ps.getDup d0).map (addMems [n.key]) else ps.getDup d0

/-- a lineage that spills its duplication into the enclosing written group -/
def LinSP (env : Env) (q : Taxon) (len : Nat) (l : SL) (G2 : List String) (hb : HogBuild) (ps : PS) : Prop :=
  ∃ ev ps', elems env (len + 1) (encode env.T env.nm q l) hb ps =
      .ok ({ hb with kids := hb.kids ++ ev.A }, ps') ∧
    SPD env.T env.nm q l ev ∧ ev.did = ps.next ∧ ps.next < ps'.next ∧ EvSt ps' ev ∧
    KInv (hb.kids ++ ev.A) ps'.next G2 ∧ Fr ps ps' ∧
    ∀ d0, d0 < ps.next → ps'.getDup d0 = ps.getDup d0

/-- one event block followed by the remaining sub-branches -/
theorem subs_event_step (env : Env) (p : Taxon) (len : Nat) (s : Sub) (r : List Sub) (hb : HogBuild)
    (ps ps1 : PS) (ev : DupEv)
    (hel1 : elems env (len + 1) (encodeSubs env.T env.nm p (s :: r)) hb ps =
      elems env (len + 1) (encodeSubs env.T env.nm p r) { hb with kids := hb.kids ++ ev.A } ps1)
    (hrd : ∀ U evs', RD env.T env.nm p r U evs' → RD env.T env.nm p (s :: r) U (ev :: evs'))
    (htaxa : appTaxaSubs p (s :: r) = ev.A.map Node.tx ++ appTaxaSubs p r)
    (hspill : spillSubs p (s :: r) = ev.lvl :: spillSubs p r)
    (hann : annElems (s :: r) = annElems r)
    (hne : ev.A ≠ []) (hok : EvOk p ps1 ev)
    (hdid : ev.did = ps.next) (hlt : ps.next < ps1.next) (hfr1 : Fr ps ps1)
    (hg1 : ∀ d0, d0 < ps.next → ps1.getDup d0 = ps.getDup d0)
    (ih : SubsG env p len r { hb with kids := hb.kids ++ ev.A } ps1) :
    SubsG env p len (s :: r) hb ps := by
  obtain ⟨hb', ps', new, U, evs, h⟩ := ih
  have hn2 := h.fr.next
  have hok' : EvOk p ps' ev := hok.congr (h.old _ (by omega))
  have hnew_ne : ∀ k ∈ new, k.dup ≠ some ev.did := by
    intro k hk hd
    rcases List.mem_append.mp (h.perm.mem_iff.mp hk) with hu | he
    · rw [(h.rd.plain k hu).1] at hd
      cases hd
    · obtain ⟨e, he1, he2⟩ := List.mem_flatMap.mp he
      have := (h.evok e he1).2.1
      rw [(h.evok e he1).1.flag k he2] at hd
      have := Option.some.inj hd
      omega
  exact ⟨hb', ps', ev.A ++ new, U, ev :: evs,
    { run := hel1.trans h.run
      kids := by rw [h.kids]; simp
      dup := h.dup
      props := h.props
      rd := hrd U evs h.rd
      perm := by
        simp only [List.flatMap_cons]
        exact (h.perm.append_left ev.A).trans (List.perm_append_comm_assoc _ _ _)
      groups := by
        rw [dupGroups_append, dupGroups_const ev.did ev.A hne hok.flag, h.groups]
        · rfl
        · intro k hk k' hk' d hd
          rw [hok.flag k hk] at hd
          cases hd
          exact hnew_ne k' hk'
      evok := by
        intro e he
        rcases List.mem_cons.mp he with rfl | he
        · exact ⟨hok', by omega, by omega⟩
        · obtain ⟨h1, h5, h6⟩ := h.evok e he
          exact ⟨h1, by omega, h6⟩
      taxa := by rw [htaxa, List.map_append, h.taxa]
      lift := by
        intro lv
        rw [liftLevel_append, liftLevel_block ps' ev.did _ ev.lvl hok'.stored rfl ev.A lv hne hok.flag, hspill]
        exact h.lift _
      kinv := h.kinv
      fr := hfr1.trans h.fr
      old := fun d0 hd0 => by rw [h.old d0 (by omega), hg1 d0 hd0]
      info := by rw [hann]; exact h.info }⟩

theorem subs_plain_step (env : Env) (p : Taxon) (len : Nat) (i : Nat) (l : SL) (r : List Sub) (hb : HogBuild)
    (ps ps1 : PS) (n : Node)
    (hel : elems env (len + 1) (encode env.T env.nm (i :: p) l) hb ps =
      .ok ({ hb with kids := hb.kids ++ [n] }, ps1))
    (hdup : n.dup = none) (hns : NS env.T env.nm (i :: p) l n) (hsp : spillSL (i :: p) l = [])
    (hfr1 : Fr ps ps1) (hg1 : ∀ d0, d0 < ps.next → ps1.getDup d0 = ps.getDup d0)
    (ih : SubsG env p len r { hb with kids := hb.kids ++ [n] } ps1) :
    SubsG env p len (.one i l :: r) hb ps := by
  obtain ⟨hb', ps', new, U, evs, h⟩ := ih
  have hn1 := hfr1.next
  exact ⟨hb', ps', n :: new, n :: U, evs,
    { run := (elems_append_ok _ hel).trans h.run
      kids := by rw [h.kids]; simp
      dup := h.dup
      props := h.props
      rd := Or.inl ⟨n, U, rfl, hdup, hns, h.rd⟩
      perm := h.perm.cons n
      groups := by
        rw [← h.groups]
        simp [dupGroups, hdup]
      evok := by
        intro ev he
        obtain ⟨h1, h5, h6⟩ := h.evok ev he
        exact ⟨h1, by omega, h6⟩
      taxa := by
        obtain ⟨e, _, e2, _⟩ := hns
        show _ = appTaxa (i :: p) l ++ appTaxaSubs p r
        rw [e2, ← h.taxa]
        rfl
      lift := by
        intro lv
        show liftLevel ps' ([n] ++ new) lv = .ok ((spillSL (i :: p) l ++ spillSubs p r).foldl lstep lv)
        rw [liftLevel_append, liftLevel_unflagged ps' n lv hdup, hsp]
        exact h.lift lv
      kinv := h.kinv
      fr := hfr1.trans h.fr
      old := fun d0 hd0 => by rw [h.old d0 (by omega), hg1 d0 hd0]
      info := h.info }⟩

/-! ### the main induction over recoverable histories

A lineage ends in a node of its own, or in an unwritten group holding one duplication whose copies appear among
the children of the enclosing written group: `spillSL = []` tells the two apart, and the results have different
shapes (`LinNS`: one node; `LinSP`: an event).  `lin_sp` takes the depth `len` of the enclosing written group and reads at `len + 1`:
opening the spilled paralogGroup needs `PInv len` (`pgOpen_spec`), which `PInv (len + 1)` does not give. -/

mutual
theorem lin_ns (env : Env) (hn : NamesInj env.T env.nm) : (l : SL) → (q : Taxon) → (len : Nat) →
    (hb : HogBuild) → (ps : PS) → wfh env.T q l = true → recoverable q l = true → spillSL q l = [] →
    (∀ e ∈ geneTaxaSL q l, env.lookupGene e.1 = some e.2) → (genesOf l).Nodup → PInv len ps →
    LinNS env q len l hb ps
  | .gene id loft, q, len, hb, ps, _, _, _, hdecl, _, hinv => by
    have hlook : env.lookupGene id = some q := hdecl (id, q) (List.mem_singleton.mpr rfl)
    refine ⟨Node.gene id q (flagAt len ps) loft, bump ps (flagAt len ps) (.g id), ?_, rfl,
      ⟨[], rfl, rfl, ?_⟩, Or.inl ⟨id, List.mem_singleton.mpr rfl, rfl⟩, (bump_frc _ _ _).toFr hinv.dids,
      fun d0 _ => bump_getDup _ _ _ _⟩
    · exact (elems_cons_ok (elem_ref_ok hlook)).trans rfl
    · intro top ht
      cases ht
      exact ⟨_, rfl⟩
  | .grp true hid label subs, q, len, hb, ps, hw, hrec, _, hdecl, hnd, hinv => by
    simp only [wfh, Bool.and_eq_true] at hw
    simp only [recoverable, Bool.and_eq_true, beq_iff_eq] at hrec
    obtain ⟨nb, ps2, n, ps3, h1, h2, htx, hdup, hkey, hR, hfr, hlt, hg⟩ :=
      writtenGroup_rule env hn q len false hid label subs ps hw.1.1.1.1 hrec.2 hinv
        (fun hb' ps' hi hk => subs_g env hn subs q len hb' ps' hw.2 hrec.1 hdecl hnd hi hk)
    refine ⟨n, ps3, (elems_cons_ok (elem_og_ok h1 h2)).trans rfl, hdup, ?_,
      Or.inr ⟨ps.next, hkey, Nat.le_refl _, hlt⟩, hfr, ?_⟩
    · refine ⟨[], htx, by rw [htx]; rfl, ?_⟩
      intro top ht
      cases ht
      exact realises_setDup _ _ _ _ hR
    · intro d0 hd0
      rw [hkey]
      exact hg d0 hd0
  | .grp false hid label subs, q, len, hb, ps, hw, hrec, hsp, hdecl, hnd, hinv => by
    simp only [wfh, Bool.and_eq_true, Bool.false_or, List.isEmpty_iff] at hw
    simp only [recoverable, Bool.and_eq_true, beq_iff_eq] at hrec
    match subs with
    | [] => exact nomatch hrec.2
    | .ann _ :: _ => exact nomatch hw.1.2.2
    | .dup _ _ _ :: _ => exact nomatch hsp
    | .one j l' :: r =>
      obtain rfl := subs_nil_of_none r (Nat.succ.inj hrec.2) hw.1.2.2
      obtain ⟨n, ps', hel, hdup, hns, hkey, hfr, hg⟩ := lin_ns env hn l' (j :: q) len hb ps
        ((Bool.and_eq_true _ _).mp hw.2).1 ((Bool.and_eq_true _ _).mp hrec.1).1
        ((List.append_nil _).symm.trans hsp) (fun e he => hdecl e (List.mem_append_left _ he))
        (List.nodup_append.mp hnd).1 hinv
      refine ⟨n, ps', (elems_append_ok _ hel).trans rfl, hdup, hns.unwritten hid label, ?_, hfr, hg⟩
      rcases hkey with ⟨id, hid', hk⟩ | hkey
      · exact Or.inl ⟨id, List.mem_append_left _ hid', hk⟩
      · exact Or.inr hkey

theorem lin_sp (env : Env) (hn : NamesInj env.T env.nm) : (l : SL) → (q : Taxon) → (len : Nat) →
    (G2 : List String) → (hb : HogBuild) → (ps : PS) → wfh env.T q l = true → recoverable q l = true →
    spillSL q l ≠ [] → (∀ e ∈ geneTaxaSL q l, env.lookupGene e.1 = some e.2) →
    (genesOf l ++ G2).Nodup → PInv len ps → KInv hb.kids ps.next (genesOf l ++ G2) →
    LinSP env q len l G2 hb ps
  | .gene id loft, q, len, G2, hb, ps, _, _, hsp, _, _, _, _ => absurd rfl hsp
  | .grp true hid label subs, q, len, G2, hb, ps, _, _, hsp, _, _, _, _ => absurd rfl hsp
  | .grp false hid label subs, q, len, G2, hb, ps, hw, hrec, hsp, hdecl, hnd, hinv, hk => by
    simp only [wfh, Bool.and_eq_true, Bool.false_or, List.isEmpty_iff] at hw
    simp only [recoverable, Bool.and_eq_true, beq_iff_eq] at hrec
    match subs with
    | [] => exact nomatch hrec.2
    | .ann _ :: _ => exact nomatch hw.1.2.2
    | .one j l' :: r =>
      obtain rfl := subs_nil_of_none r (Nat.succ.inj hrec.2) hw.1.2.2
      have hsp' : spillSL (j :: q) l' ≠ [] := fun h => hsp ((List.append_nil _).trans h)
      have hnd' : ((genesOf l' ++ []) ++ G2).Nodup := hnd
      have hk' : KInv hb.kids ps.next ((genesOf l' ++ []) ++ G2) := hk
      rw [List.append_nil] at hnd' hk'
      obtain ⟨ev, ps', hel, h1, h2⟩ := lin_sp env hn l' (j :: q) len G2 hb ps
        ((Bool.and_eq_true _ _).mp hw.2).1 ((Bool.and_eq_true _ _).mp hrec.1).1 hsp'
        (fun e he => hdecl e (List.mem_append_left _ he)) hnd' hinv hk'
      exact ⟨ev, ps', (elems_append_ok _ hel).trans rfl, h1.unwritten hid label, h2⟩
    | .dup j pgid cs :: r =>
      obtain rfl := subs_nil_of_none r (Nat.succ.inj hrec.2) hw.1.2.2
      have hnd' : ((genesOfCopies cs ++ []) ++ G2).Nodup := hnd
      have hk' : KInv hb.kids ps.next ((genesOfCopies cs ++ []) ++ G2) := hk
      rw [List.append_nil] at hnd' hk'
      obtain ⟨hlen2, hwc, _⟩ := wfhSubs_cons_dup.mp hw.2
      obtain ⟨hrc, hrule, _⟩ := recoverableSubs_cons_dup.mp hrec.1
      obtain ⟨A, ps', hel, hns, hne, hfl, hst, hlt, hkinv, hfr, hg⟩ := pgRead env q j len pgid cs G2 q hb ps hinv
        hk' hlen2 hrule
        (fun ps0 hi hk0 => cop_g env hn cs (j :: q) (len + 1) G2 hb ps0 hwc hrc
          (fun e he => hdecl e (List.mem_append_left _ he)) hnd' hi hk0)
      exact ⟨⟨ps.next, pgid, q, A⟩, ps', (elems_cons_ok hel).trans rfl,
        SPD.base q j hid label pgid cs _ rfl rfl hns hne hfl, rfl, hlt, hst, hkinv, hfr, hg⟩

theorem subs_g (env : Env) (hn : NamesInj env.T env.nm) : (subs : List Sub) → (p : Taxon) → (len : Nat) →
    (hb : HogBuild) → (ps : PS) → wfhSubs env.T p subs = true → recoverableSubs p subs = true →
    (∀ e ∈ geneTaxaSubs p subs, env.lookupGene e.1 = some e.2) → (genesOfSubs subs).Nodup → PInv len ps →
    KInv hb.kids ps.next (genesOfSubs subs) → SubsG env p len subs hb ps
  | [], p, len, hb, ps, _, _, _, _, hinv, hk =>
    ⟨hb, ps, [], [], [], rfl, (List.append_nil _).symm, rfl, rfl, ⟨rfl, rfl⟩, .refl _, rfl, nofun, rfl,
      fun lv => rfl, hk, Fr.refl_of hinv.dids, fun _ _ => rfl, InfoFold.nil _⟩
  | .one i l :: r, p, len, hb, ps, hw, hrec, hdecl, hnd, hinv, hk => by
    replace hw := (Bool.and_eq_true _ _).mp hw
    replace hrec := (Bool.and_eq_true _ _).mp hrec
    have hdecl1 : ∀ e ∈ geneTaxaSL (i :: p) l, env.lookupGene e.1 = some e.2 :=
      fun e he => hdecl e (List.mem_append_left _ he)
    have hdecl2 : ∀ e ∈ geneTaxaSubs p r, env.lookupGene e.1 = some e.2 :=
      fun e he => hdecl e (List.mem_append_right _ he)
    obtain ⟨hnd1, hnd2, _⟩ := List.nodup_append.mp hnd
    by_cases hsp : spillSL (i :: p) l = []
    · obtain ⟨n, ps1, hel, hdup, hns, hkey, hfr1, hg1⟩ := lin_ns env hn l (i :: p) (len + 1) hb ps
        hw.1 hrec.1 hsp hdecl1 hnd1 hinv.mono
      rw [flagAt_succ_of_pinv hinv] at hdup hg1
      exact subs_plain_step env p len i l r hb ps ps1 n hel hdup hns hsp hfr1
        (fun d0 hd0 => (hg1 d0 hd0).trans (if_neg nofun))
        (subs_g env hn r p len _ ps1 hw.2 hrec.2 hdecl2 hnd2 (hinv.of_fr hfr1) (hk.step hnd hkey hfr1.next))
    · obtain ⟨ev, ps1, hel, hspd, hdid, hlt, hst, hkinv1, hfr1, hg1⟩ := lin_sp env hn l (i :: p) len
        (genesOfSubs r) hb ps hw.1 hrec.1 hsp hdecl1 hnd hinv hk
      have hspd' := hspd
      obtain ⟨e, e1, e2, e3, e4, e5, _⟩ := hspd'
      exact subs_event_step env p len (.one i l) r hb ps ps1 ev (elems_append_ok _ hel)
        (fun U evs' h => Or.inr ⟨ev, evs', rfl, hspd, h⟩) (congrArg (· ++ appTaxaSubs p r) e3)
        (congrArg (· ++ spillSubs p r) e2) rfl e4
        ⟨fun a ha => (e5 a ha).1, hst, Or.inr ⟨e, i, e1⟩, fun a ha => (e5 a ha).2⟩ hdid hlt hfr1 hg1
        (subs_g env hn r p len _ ps1 hw.2 hrec.2 hdecl2 hnd2 (hinv.of_fr hfr1) hkinv1)
  | .dup i pgid cs :: r, p, len, hb, ps, hw, hrec, hdecl, hnd, hinv, hk => by
    obtain ⟨hlen2, hwc, hwr⟩ := wfhSubs_cons_dup.mp hw
    obtain ⟨hrc, hrule, hrr⟩ := recoverableSubs_cons_dup.mp hrec
    obtain ⟨A, ps1, hel, hns, hne, hfl, hst, hlt, hkinv1, hfr1, hg1⟩ := pgRead env p i len pgid cs
      (genesOfSubs r) p hb ps hinv hk hlen2 hrule
      (fun ps0 hi hk0 => cop_g env hn cs (i :: p) (len + 1) (genesOfSubs r) hb ps0 hwc hrc
        (fun e he => hdecl e (List.mem_append_left _ he)) hnd hi hk0)
    exact subs_event_step env p len (.dup i pgid cs) r hb ps ps1 ⟨ps.next, pgid, p, A⟩ (elems_cons_ok hel)
      (fun U evs' h => ⟨_, evs', rfl, rfl, rfl, hns, h⟩) (congrArg (· ++ appTaxaSubs p r) hns.appTaxa.1)
      rfl rfl hne ⟨hfl, hst, Or.inl rfl, hns.okpath i p cs A⟩ rfl hlt hfr1 hg1
      (subs_g env hn r p len _ ps1 hwr hrr (fun e he => hdecl e (List.mem_append_right _ he))
        (List.nodup_append.mp hnd).2.1 (hinv.of_fr hfr1) hkinv1)
  | .ann e :: r, p, len, hb, ps, hw, hrec, hdecl, hnd, hinv, hk => by
    replace hw := (Bool.and_eq_true _ _).mp hw
    obtain ⟨hb1, hel1, hk1, hd1, hp1, hi1⟩ := elem_ann_ok env len e hb ps hw.1
    obtain ⟨hb', ps', new, U, evs, h⟩ := subs_g env hn r p len hb1 ps hw.2 hrec hdecl hnd hinv
      (by rw [hk1]; exact hk)
    exact ⟨hb', ps', new, U, evs,
      { h with
        run := (elems_cons_ok hel1).trans h.run
        kids := by rw [h.kids, hk1]
        dup := h.dup.trans hd1
        props := h.props.trans hp1
        info := InfoFold.cons hi1 h.info }⟩

theorem cop_g (env : Env) (hn : NamesInj env.T env.nm) : (cs : List SL) → (q : Taxon) → (len : Nat) →
    (G2 : List String) → (hb : HogBuild) → (ps : PS) → wfhCopies env.T q cs = true →
    recoverableCopies q cs = true → (∀ e ∈ geneTaxaCopies q cs, env.lookupGene e.1 = some e.2) →
    (genesOfCopies cs ++ G2).Nodup → PInv len ps → KInv hb.kids ps.next (genesOfCopies cs ++ G2) →
    CopG env q len cs G2 hb ps
  | [], q, len, G2, hb, ps, _, _, _, _, hinv, hk => by
    refine ⟨[], ps, by rw [List.append_nil]; rfl, rfl, by simp, by rw [List.append_nil]; exact hk,
      Fr.refl_of hinv.dids, ?_⟩
    intro d0 _
    split
    · cases ps.getDup d0 <;> simp [addMems_nil]
    · rfl
  | c :: cs, q, len, G2, hb, ps, hw, hrec, hdecl, hnd, hinv, hk => by
    replace hw := (Bool.and_eq_true _ _).mp hw
    replace hrec : (recoverable q c && (spillSL q c).isEmpty && recoverableCopies q cs) = true := hrec
    simp only [Bool.and_eq_true, List.isEmpty_iff] at hrec
    have hnd' : (genesOf c ++ (genesOfCopies cs ++ G2)).Nodup := by rw [← List.append_assoc]; exact hnd
    have hk' : KInv hb.kids ps.next (genesOf c ++ (genesOfCopies cs ++ G2)) := by
      rw [← List.append_assoc]; exact hk
    obtain ⟨n, ps1, hel, hdup, hns, hkey, hfr1, hg1⟩ := lin_ns env hn c q len hb ps hw.1 hrec.1.1 hrec.1.2
      (fun e he => hdecl e (List.mem_append_left _ he)) (List.nodup_append.mp hnd').1 hinv
    have hn1 := hfr1.next
    obtain ⟨ks, ps', hel', hnsc, hks, hkinv, hfr2, hg2⟩ := cop_g env hn cs q len G2
      { hb with kids := hb.kids ++ [n] } ps1 hw.2 hrec.2 (fun e he => hdecl e (List.mem_append_right _ he))
      (List.nodup_append.mp hnd').2.1 (hinv.of_fr hfr1) (hk'.step hnd' hkey hfr1.next)
    rw [flagAt_fr hfr1] at hks hg2
    refine ⟨n :: ks, ps', ?_, ⟨n, ks, rfl, hns, hnsc⟩, ?_, by simpa using hkinv, hfr1.trans hfr2, ?_⟩
    · rw [show encodeCopies env.T env.nm q (c :: cs) = encode env.T env.nm q c ++ encodeCopies env.T env.nm q cs
        from rfl, elems_append_ok _ hel, hel']
      simp
    · intro k hk'
      rcases List.mem_cons.mp hk' with rfl | h
      · exact hdup
      · exact hks k h
    · intro d0 hd0
      rw [hg2 d0 (by omega), hg1 d0 hd0]
      split
      · cases ps.getDup d0 <;> simp [addMems_addMems]
      · rfl
end

/-- C19 / C03, one family, with the annotation clause -/
theorem C03A_family (env : Env) (p : Taxon) (l : SL)
    (hg : isWrittenGrp l = true) (hw : wfh env.T p l = true) (hrec : recoverable p l = true)
    (hdecl : Declared env p l) (hnd : (genesOf l).Nodup) (hn : NamesInj env.T env.nm)
    (tops : List Node) (ps : PS) (hidle : Idle ps) :
    ∃ n ps', topElems env none (encode env.T env.nm p l) tops ps = .ok (tops ++ [n], ps') ∧
      RealisesA env.T env.nm p l n ∧ n.dup = none ∧ Idle ps' ∧ ps.next ≤ ps'.next := by
  cases l with
  | gene _ _ => simp [isWrittenGrp] at hg
  | grp w hid label subs =>
    simp only [isWrittenGrp] at hg
    subst hg
    obtain ⟨hst, hin, hcur, hdid⟩ := hidle
    have hinv : PInv 0 ps := ⟨by rw [hst]; simp, by rw [hst, hin]; rfl, by rw [hst, hcur]; rfl, by
      intro d hd
      obtain ⟨b, hb, rfl⟩ := List.mem_map.mp hd
      exact hdid b hb⟩
    simp only [wfh, Bool.and_eq_true] at hw
    simp only [recoverable, Bool.and_eq_true, beq_iff_eq] at hrec
    obtain ⟨nb, ps2, n, ps3, h1, h2, htx, hdup, hkey, hR, hfr, hlt, hg⟩ :=
      writtenGroup_rule env hn p 0 true hid label subs ps hw.1.1.1.1 hrec.2 hinv
        (fun hb' ps' hi hk => subs_g env hn subs p 0 hb' ps' hw.2 hrec.1 hdecl hnd hi hk)
    refine ⟨n, ps3, ?_, hR, ?_, ?_, by omega⟩
    · simp only [encode, topElems, bind, Except.bind, topElem_og_ok h1 h2]
    · rw [hdup]; simp [flagAt, hin]
    · exact ⟨hfr.pstack.trans hst, hfr.inpg.trans hin, hfr.cur.trans hcur,
        fun b hb => hfr.dids b.did (List.mem_map.mpr ⟨b, hb, rfl⟩)⟩

theorem C03A_load_aux (env : Env) (hn : NamesInj env.T env.nm) (fams : List (Taxon × SL))
    (hf : ∀ f ∈ fams, isWrittenGrp f.2 = true ∧ wfh env.T f.1 f.2 = true ∧ recoverable f.1 f.2 = true ∧
      Declared env f.1 f.2 ∧ (genesOf f.2).Nodup) (tops : List Node) (ps : PS) (hidle : Idle ps) :
    ∃ new ps', topElems env none (fams.flatMap fun f => encode env.T env.nm f.1 f.2) tops ps =
        .ok (tops ++ new, ps') ∧ new.length = fams.length ∧
      ∀ i (h1 : i < new.length) (h2 : i < fams.length), RealisesA env.T env.nm (fams[i]).1 (fams[i]).2 new[i] := by
  induction fams generalizing tops ps with
  | nil => exact ⟨[], ps, by simp [topElems], rfl, fun i h1 => by simp at h1⟩
  | cons f fs ih =>
    obtain ⟨hg, hw, hrec, hdecl, hnd⟩ := hf f (by simp)
    obtain ⟨n, ps1, h1, hR, _, hidle1, _⟩ :=
      C03A_family env f.1 f.2 hg hw hrec hdecl hnd hn tops ps hidle
    obtain ⟨new, ps', h2, hl, hi⟩ := ih (fun g hg => hf g (by simp [hg])) (tops ++ [n]) ps1 hidle1
    refine ⟨n :: new, ps', ?_, by simp [hl], ?_⟩
    · simp only [List.flatMap_cons]
      rw [topElems_append_ok _ h1, h2]
      simp
    · intro i h1' h2'
      cases i with
      | zero => exact hR
      | succ i =>
        simp only [List.getElem_cons_succ]
        exact hi i (by simpa using h1') (by simpa using h2')

/-- C19 / C03, whole file, with the annotation clause -/
theorem C03A_load (env : Env) (fams : List (Taxon × SL))
    (hf : ∀ f ∈ fams, isWrittenGrp f.2 = true ∧ wfh env.T f.1 f.2 = true ∧ recoverable f.1 f.2 = true ∧
      Declared env f.1 f.2 ∧ (genesOf f.2).Nodup)
    (hn : NamesInj env.T env.nm) :
    ∃ tops ps, topElems env none (fams.flatMap fun f => encode env.T env.nm f.1 f.2) [] {} = .ok (tops, ps) ∧
      tops.length = fams.length ∧
      ∀ i (h1 : i < tops.length) (h2 : i < fams.length), RealisesA env.T env.nm (fams[i]).1 (fams[i]).2 tops[i] := by
  obtain ⟨new, ps', h, hl, hi⟩ := C03A_load_aux env hn fams hf [] {}
    ⟨rfl, rfl, rfl, fun b hb => absurd hb List.not_mem_nil⟩
  refine ⟨new, ps', by simpa using h, hl, hi⟩

/-- **C03, one family** -/
theorem C03_family (env : Env) (p : Taxon) (l : SL)
    (hg : isWrittenGrp l = true) (hw : wfh env.T p l = true) (hrec : recoverable p l = true)
    (hdecl : Declared env p l) (hnd : (genesOf l).Nodup) (hn : NamesInj env.T env.nm)
    (tops : List Node) (ps : PS) (hidle : Idle ps) :
    ∃ n ps', topElems env none (encode env.T env.nm p l) tops ps = .ok (tops ++ [n], ps') ∧
      Realises p l n ∧ n.dup = none ∧ Idle ps' ∧ ps.next ≤ ps'.next := by
  obtain ⟨n, ps', h1, h2, h3, h4, h5⟩ := C03A_family env p l hg hw hrec hdecl hnd hn tops ps hidle
  exact ⟨n, ps', h1, realisesA_realises' env.T env.nm l p n h2, h3, h4, h5⟩

/-- **C03, whole file**: all families are loaded, in order, each realising its history -/
theorem C03_load_realises (env : Env) (fams : List (Taxon × SL))
    (hf : ∀ f ∈ fams, isWrittenGrp f.2 = true ∧ wfh env.T f.1 f.2 = true ∧ recoverable f.1 f.2 = true ∧
      Declared env f.1 f.2 ∧ (genesOf f.2).Nodup)
    (hn : NamesInj env.T env.nm) :
    ∃ tops ps, topElems env none (fams.flatMap fun f => encode env.T env.nm f.1 f.2) [] {} = .ok (tops, ps) ∧
      tops.length = fams.length ∧
      ∀ i (h1 : i < tops.length) (h2 : i < fams.length), Realises (fams[i]).1 (fams[i]).2 tops[i] := by
  obtain ⟨tops, ps, h1, h2, h3⟩ := C03A_load env fams hf hn
  exact ⟨tops, ps, h1, h2, fun i a b => realisesA_realises' env.T env.nm _ _ _ (h3 i a b)⟩

end Pyham
