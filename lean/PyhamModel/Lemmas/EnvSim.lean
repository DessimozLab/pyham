/-
  Two environments the loader cannot tell apart.  It consults the environment only when a geneRef looks its gene up
  and when closing a group compares tree names with a TaxRange property.  `EnvSim env env' A I`: on elements in `A`,
  while the property list of the open group is in `I`, both answer alike; then elements in `A` are read identically.
-/
import PyhamModel.Lemmas.LoaderEqns
namespace Pyham
open Except

theorem closeOg_congr {env env' : Env} {hb : HogBuild} (h : inferLevel env hb = inferLevel env' hb) (top : Bool)
    (ps : PS) : closeOg env top hb ps = closeOg env' top hb ps := by
  rw [closeOg, closeOg, h]

structure EnvSim (env env' : Env) (A : Elem → Prop) (I : List (String × String) → Prop) : Prop where
  ref : ∀ id l, A (.ref id l) → env.lookupGene id = env'.lookupGene id
  /-- a property in `A` keeps the property list of the open group in `I` -/
  prop : ∀ n v ps, A (.prop n v) → I ps → I (dictSet ps n v)
  pg : ∀ p its, A (.pg p its) → ∀ e ∈ its, A e
  og : ∀ h o its, A (.og h o its) → ∀ e ∈ its, A e
  /-- a group starts with the empty property list -/
  new : I []
  level : ∀ hb, I hb.info.props → inferLevel env hb = inferLevel env' hb

variable {env env' : Env} {A : Elem → Prop} {I : List (String × String) → Prop}

theorem elems_sim_of (es : List Elem)
    (h : ∀ e ∈ es, ∀ len hb ps, A e → I hb.info.props →
      elem env len e hb ps = elem env' len e hb ps ∧ (elem env' len e hb ps).All fun r => I r.1.info.props)
    (len : Nat) (hb : HogBuild) (ps : PS) (hA : ∀ e ∈ es, A e) (hI : I hb.info.props) :
    elems env len es hb ps = elems env' len es hb ps ∧ (elems env' len es hb ps).All fun r => I r.1.info.props := by
  induction es generalizing hb ps with
  | nil => exact ⟨rfl, hI⟩
  | cons e es ih =>
    rw [List.forall_mem_cons] at h hA
    obtain ⟨h1, h2⟩ := h.1 len hb ps hA.1 hI
    rw [elems_cons, elems_cons, h1]
    exact ⟨h2.bind_congr fun r hr => (ih h.2 r.1 r.2 hA.2 hr).1, h2.bind fun r hr => (ih h.2 r.1 r.2 hA.2 hr).2⟩

theorem elem_sim (S : EnvSim env env' A I) (e : Elem) (len : Nat) (hb : HogBuild) (ps : PS) (hA : A e)
    (hI : I hb.info.props) :
    elem env len e hb ps = elem env' len e hb ps ∧ (elem env' len e hb ps).All fun r => I r.1.info.props := by
  induction e using Elem.induct generalizing len hb ps with
  | ref id loft =>
    rw [elem_ref, elem_ref, S.ref id loft hA]
    refine ⟨rfl, ?_⟩
    split
    · trivial
    · exact hI
  | score id v => exact ⟨rfl, hI⟩
  | prop n v => exact ⟨rfl, S.prop n v _ hA hI⟩
  | og hid og its ih =>
    obtain ⟨h1, h2⟩ := elems_sim_of its (fun e he len hb ps => ih e he len hb ps) (len + 1)
      (openOg len hid og ps).1 (openOg len hid og ps).2 (S.og hid og its hA) S.new
    rw [elem_og, elem_og, h1]
    refine ⟨h2.bind_congr fun r hr => by rw [closeOg_congr (S.level r.1 hr)], ?_⟩
    apply All.bind all_true
    intro r _
    apply All.bind all_true
    intro s _
    exact hI
  | pg pgid its ih =>
    obtain ⟨h1, h2⟩ := elems_sim_of its (fun e he len hb ps => ih e he len hb ps) len hb (pgOpen len pgid ps)
      (S.pg pgid its hA) hI
    rw [elem_pg, elem_pg, h1]
    refine ⟨rfl, ?_⟩
    apply h2.bind
    intro r hr
    apply All.bind all_true
    intro _ _
    exact hr

theorem elems_sim (S : EnvSim env env' A I) (es : List Elem) (len : Nat) (hb : HogBuild) (ps : PS)
    (hA : ∀ e ∈ es, A e) (hI : I hb.info.props) :
    elems env len es hb ps = elems env' len es hb ps ∧ (elems env' len es hb ps).All fun r => I r.1.info.props :=
  elems_sim_of es (fun e _ => elem_sim S e) len hb ps hA hI

theorem topElems_sim_of (flt : HogFilter) (es : List Elem)
    (h : ∀ e ∈ es, ∀ tops ps, A e → topElem env flt e tops ps = topElem env' flt e tops ps)
    (tops : List Node) (ps : PS) (hA : ∀ e ∈ es, A e) :
    topElems env flt es tops ps = topElems env' flt es tops ps := by
  induction es generalizing tops ps with
  | nil => rfl
  | cons e es ih =>
    rw [List.forall_mem_cons] at h hA
    rw [topElems_cons, topElems_cons, h.1 tops ps hA.1]
    exact all_true.bind_congr fun r _ => ih h.2 r.1 r.2 hA.2

theorem topElem_sim (S : EnvSim env env' A I) (flt : HogFilter) (e : Elem) (tops : List Node) (ps : PS) (hA : A e) :
    topElem env flt e tops ps = topElem env' flt e tops ps := by
  induction e using Elem.induct generalizing tops ps with
  | ref id loft =>
    show (match env.lookupGene id with | none => _ | some _ => _ : Except Err (List Node × PS)) =
      match env'.lookupGene id with | none => _ | some _ => _
    rw [S.ref id loft hA]
  | score id v => rfl
  | prop n v => rfl
  | og hid og its _ =>
    obtain ⟨h1, h2⟩ := elems_sim S its 1 (openOg 0 hid og ps).1 (openOg 0 hid og ps).2 (S.og hid og its hA) S.new
    have h0 : topElem env none (.og hid og its) tops ps = topElem env' none (.og hid og its) tops ps := by
      rw [topElem_og_none, topElem_og_none, h1]
      exact h2.bind_congr fun r hr => by rw [closeOg_congr (S.level r.1 hr)]
    rw [topElem_og, topElem_og (env := env'), h0]
  | pg pgid its ih =>
    rw [topElem_pg, topElem_pg,
      topElems_sim_of flt its (fun e he tops ps => ih e he tops ps) tops _ (S.pg pgid its hA)]

theorem topElems_sim (S : EnvSim env env' A I) (flt : HogFilter) (es : List Elem) (tops : List Node) (ps : PS)
    (hA : ∀ e ∈ es, A e) : topElems env flt es tops ps = topElems env' flt es tops ps :=
  topElems_sim_of flt es (fun e _ => topElem_sim S flt e) tops ps hA

theorem envSim_refs (env env' : Env) (hT : env.T = env'.T) (hn : env.nm = env'.nm) :
    EnvSim env env' (fun e => ∀ id ∈ refsOf e, env.lookupGene id = env'.lookupGene id) (fun _ => True) where
  ref := fun id _ h => h id (List.mem_singleton.mpr rfl)
  prop := fun _ _ _ _ _ => trivial
  pg := fun _ its h e he id hid => h id ((mem_refsOfL id its).mpr ⟨e, he, hid⟩)
  og := fun _ _ its h e he id hid => h id ((mem_refsOfL id its).mpr ⟨e, he, hid⟩)
  new := trivial
  level := fun hb _ => by
    obtain ⟨T, nm, g⟩ := env
    obtain ⟨T', nm', g'⟩ := env'
    cases hT
    cases hn
    rfl

end Pyham
