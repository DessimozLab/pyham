/-
  C09, meaning of the profile numbers: for a hierarchy that REALISES a history the per-family "duplicated" count at a node
  is the number of copies the history's duplication events place on the branch into it, and the number of duplication
  events is (copies - 1) summed over those events (`realises_profile_counts`).  Summed over the families of a loaded
  consistent dataset, with the balance equations, this writes the whole profile entry of every non-root node in terms of
  the histories (`Loaded.profile_entry`, `C09_profile_from_histories`).
-/
import PyhamModel.Lemmas.LineageCount
namespace Pyham

theorem nodes_eq_cons : (k : Node) → k.nodes = k :: Node.nodesL k.kids
  | .gene .. => rfl
  | .hog .. => rfl

theorem length_filter_nodesL_cons (p : Node → Bool) (k : Node) (ks : List Node) :
    ((Node.nodesL (k :: ks)).filter p).length =
      (if p k = true then 1 else 0) + ((Node.nodesL k.kids).filter p).length + ((Node.nodesL ks).filter p).length := by
  rw [Node.nodesL, nodes_eq_cons k, List.filter_append, List.length_append, length_filter_cons]

/-- flagged nodes at `t` in a forest (roots included) -/
def flagCountL (t : Taxon) (ks : List Node) : Nat :=
  ((Node.nodesL ks).filter fun x => x.tx == t && x.dup.isSome).length

theorem flagCountL_cons (t : Taxon) (k : Node) (ks : List Node) :
    flagCountL t (k :: ks) =
      (if (k.tx == t && k.dup.isSome) = true then 1 else 0) + flagCountL t k.kids + flagCountL t ks :=
  length_filter_nodesL_cons _ k ks

/-- `dupWeight id` with the copies credited to the copy lineages: the state says "this lineage is itself a copy" -/
def flaggedFold (t : Taxon) : HFold Bool where
  F q b l := (if (q == t && b) = true then 1 else 0) + dupWeight id t q l
  FS q _ subs := dupWeightSubs id t q subs
  FC q b cs := (if (q == t && b) = true then cs.length else 0) + dupWeightCopies id t q cs
  here q b _ := if (q == t && b) = true then 1 else 0
  down _ b := b
  sub _ b := b
  ev _ _ _ := 0
  grp _ _ _ _ _ _ := rfl
  nil _ _ := rfl
  one _ _ _ _ _ := by simp only [dupWeightSubs, Bool.and_false, Bool.false_eq_true, if_false, Nat.zero_add]
  dup _ _ _ _ _ _ := by simp only [dupWeightSubs, Bool.and_true, Nat.zero_add, id]
  ann _ _ _ _ := rfl
  cnil _ _ := by simp only [dupWeightCopies, List.length_nil, ite_self]
  ccons _ _ _ _ := by
    simp only [dupWeightCopies, List.length_cons]
    split <;> omega

def flaggedCount (t : Taxon) : NFold (flaggedFold t) where
  N b n := (if (n.tx == t && b) = true then 1 else 0) + flagCountL t n.kids
  NL _ ks := flagCountL t ks
  ok _ _ := True
  nil _ := rfl
  cons _ k ks := flagCountL_cons t k ks
  gene _ _ _ _ _ := rfl
  hog _ _ _ _ _ _ _ _ _ _ _ _ := rfl
  ok_sub _ _ _ _ _ _ _ _ _ := trivial
  ev _ _ _ := rfl

/-- flagged nodes below a realising node = copies the history places on the branch -/
theorem realises_fc (t q : Taxon) (l : SL) (n : Node) (h : Realises q l n) :
    flagCountL t n.kids = copiesInto t q l := by
  have := (flaggedCount t).agree q false l n h trivial
  simp only [flaggedCount, flaggedFold, Bool.and_false, Bool.false_eq_true, if_false, Nat.zero_add] at this
  exact this

theorem realisesSubs_fc (t q : Taxon) : (subs : List Sub) → (plain : List Node) →
    (evs : List (DupRec × List Node)) → RealisesSubs q subs plain evs →
    flagCountL t plain + flagCountL t (evs.flatMap (·.2)) = dupWeightSubs id t q subs :=
  fun subs plain evs h => (flaggedCount t).agreeSubs q false subs plain evs h (fun _ _ _ => trivial)

theorem realisesCopies_fc (t q : Taxon) : (cs : List SL) → (ks : List Node) → RealisesCopies q cs ks →
    (∀ k ∈ ks, k.dup.isSome = true) →
    flagCountL t ks = (if (q == t) = true then cs.length else 0) + dupWeightCopies id t q cs := by
  intro cs ks h hfl
  have := (flaggedCount t).agreeCopies q false true cs ks h hfl (fun _ _ => trivial)
  simp only [flaggedCount, flaggedFold, Bool.and_true] at this
  exact this

/-! ### duplication events: HOGs that have a flagged child on the branch -/

/-- `x` lives at `u` and has a child at `i :: u` that arose by duplication -/
def evHere (u : Taxon) (i : Nat) (x : Node) : Bool :=
  x.tx == u && x.kids.any fun c => c.tx == i :: u && c.dup.isSome

def evCountL (u : Taxon) (i : Nat) (ks : List Node) : Nat := ((Node.nodesL ks).filter (evHere u i)).length

theorem evCountL_cons (u : Taxon) (i : Nat) (k : Node) (ks : List Node) :
    evCountL u i (k :: ks) = (if evHere u i k = true then 1 else 0) + evCountL u i k.kids + evCountL u i ks :=
  length_filter_nodesL_cons _ k ks

/-- the events of one group itself on the branch into `t` -/
def ownEvents (t q : Taxon) : List Sub → Nat
  | [] => 0
  | .dup j _ _ :: r => (if ((j :: q) == t) = true then 1 else 0) + ownEvents t q r
  | _ :: r => ownEvents t q r

mutual
/-- `eventsInto` with each event credited to the group that has it (`ownEvents`) and not to its `dup` sub
    (`deep_eq_all`): a node count has a term for the HOG and none for the duplication record (`NFold.ev`) -/
def deepEvents (t : Taxon) : Taxon → SL → Nat
  | _, .gene _ _ => 0
  | q, .grp _ _ _ subs => ownEvents t q subs + deepEventsSubs t q subs
def deepEventsSubs (t : Taxon) (q : Taxon) : List Sub → Nat
  | [] => 0
  | .one i l :: r => deepEvents t (i :: q) l + deepEventsSubs t q r
  | .dup i _ cs :: r => deepEventsCopies t (i :: q) cs + deepEventsSubs t q r
  | .ann _ :: r => deepEventsSubs t q r
def deepEventsCopies (t : Taxon) (q : Taxon) : List SL → Nat
  | [] => 0
  | c :: cs => deepEvents t q c + deepEventsCopies t q cs
end

theorem deep_eq_all (t : Taxon) :
    (∀ l q, deepEvents t q l = dupWeight (fun _ => 1) t q l) ∧
    (∀ subs q, ownEvents t q subs + deepEventsSubs t q subs = dupWeightSubs (fun _ => 1) t q subs) ∧
    (∀ cs q, deepEventsCopies t q cs = dupWeightCopies (fun _ => 1) t q cs) := by
  refine SL.induction (fun _ _ _ => rfl) (fun _ _ _ _ ih => ih) (fun _ => rfl) ?_ ?_ (fun _ _ ih => ih)
    (fun _ => rfl) ?_
  · intro i l r ihl ihr q
    simp only [ownEvents, deepEventsSubs, dupWeightSubs]
    rw [← ihr q, ihl]
    exact Nat.add_left_comm ..
  · intro i pg cs r ihc ihr q
    simp only [ownEvents, deepEventsSubs, dupWeightSubs]
    rw [← ihr q, ihc]
    omega
  · intro c cs ihc ihr q
    rw [deepEventsCopies, dupWeightCopies, ihc, ihr]

theorem deep_eq (t : Taxon) (q : Taxon) (l : SL) : deepEvents t q l = dupWeight (fun _ => 1) t q l :=
  (deep_eq_all t).1 l q

theorem deepSubs_eq (t : Taxon) (q : Taxon) : (subs : List Sub) →
    ownEvents t q subs + deepEventsSubs t q subs = dupWeightSubs (fun _ => 1) t q subs :=
  fun subs => (deep_eq_all t).2.1 subs q

theorem deepCopies_eq (t : Taxon) (q : Taxon) : (cs : List SL) →
    deepEventsCopies t q cs = dupWeightCopies (fun _ => 1) t q cs :=
  fun cs => (deep_eq_all t).2.2 cs q

/-- with distinct branch indices a group has at most one event on a branch -/
theorem ownEvents_le_one (i : Nat) (u q : Taxon) (subs : List Sub) (h : (subs.filterMap subIndex).Nodup) :
    ownEvents (i :: u) q subs ≤ 1 ∧ (ownEvents (i :: u) q subs = 1 → i ∈ subs.filterMap subIndex) := by
  induction subs with
  | nil => simp [ownEvents]
  | cons x r ih =>
    cases x with
    | one j l =>
      simp only [List.filterMap_cons, subIndex, List.nodup_cons] at h
      simp only [ownEvents, List.filterMap_cons, subIndex, List.mem_cons]
      exact ⟨(ih h.2).1, fun e => Or.inr ((ih h.2).2 e)⟩
    | ann e =>
      simp only [List.filterMap_cons, subIndex] at h
      simp only [ownEvents, List.filterMap_cons, subIndex]
      exact ih h
    | dup j pg cs =>
      simp only [List.filterMap_cons, subIndex, List.nodup_cons] at h
      have ih := ih h.2
      simp only [ownEvents, List.filterMap_cons, subIndex, List.mem_cons]
      by_cases hj : ((j :: q) == (i :: u)) = true
      · have hji : j = i := by
          simp only [beq_iff_eq, List.cons.injEq] at hj
          exact hj.1
        subst hji
        rw [if_pos hj]
        have : ownEvents (j :: u) q r = 0 := by
          rcases Nat.eq_zero_or_pos (ownEvents (j :: u) q r) with h0 | hpos
          · exact h0
          · have hle := ih.1
            have h1 : ownEvents (j :: u) q r = 1 := by omega
            exact absurd (ih.2 h1) h.1
        rw [this]
        exact ⟨by omega, fun _ => Or.inl rfl⟩
      · rw [if_neg hj]
        simp only [Nat.zero_add]
        exact ⟨ih.1, fun e => Or.inr (ih.2 e)⟩

/-- the children of a realising HOG that are flagged and live at `t`: there is one iff the group has an event into `t` -/
theorem realisesSubs_any (T : STree) (t q : Taxon) (subs : List Sub) (plain : List Node)
    (evs : List (DupRec × List Node)) (h : RealisesSubs q subs plain evs) (hw : wfhSubs T q subs = true) :
    ((plain ++ evs.flatMap (·.2)).any fun c => c.tx == t && c.dup.isSome) = decide (0 < ownEvents t q subs) := by
  induction subs generalizing plain evs with
  | nil =>
    simp only [RealisesSubs] at h
    obtain ⟨rfl, rfl⟩ := h
    simp [ownEvents]
  | cons x r ih =>
    cases x with
    | one i l =>
      simp only [RealisesSubs] at h
      obtain ⟨k, plain', rfl, hkd, _, hr⟩ := h
      simp only [wfhSubs, Bool.and_eq_true] at hw
      simp only [List.cons_append, List.any_cons, hkd, Option.isSome_none, Bool.and_false, Bool.false_or, ownEvents]
      exact ih plain' evs hr hw.2
    | ann e =>
      simp only [RealisesSubs] at h
      simp only [wfhSubs, Bool.and_eq_true] at hw
      simp only [ownEvents]
      exact ih plain evs h hw.2
    | dup i pgid cs =>
      simp only [RealisesSubs] at h
      obtain ⟨rec, ks, evs', rfl, _, _, _, hfl, hc, hr⟩ := h
      simp only [wfhSubs, Bool.and_eq_true, decide_eq_true_eq] at hw
      have ih := ih plain evs' hr hw.2
      obtain ⟨hlen, htx⟩ := realisesCopies_mem (i :: q) cs ks hc
      have hks : (ks.any fun c => c.tx == t && c.dup.isSome) = ((i :: q) == t) := by
        rw [Bool.eq_iff_iff, List.any_eq_true]
        constructor
        · rintro ⟨c, hc', hcond⟩
          simp only [Bool.and_eq_true] at hcond
          rw [htx c hc'] at hcond
          exact hcond.1
        · intro hq
          have hne : ks ≠ [] := by
            intro e
            rw [e, List.length_nil] at hlen
            omega
          obtain ⟨c, hc'⟩ := List.exists_mem_of_ne_nil ks hne
          refine ⟨c, hc', ?_⟩
          rw [htx c hc', hfl c hc']
          simpa using hq
      simp only [List.flatMap_cons, ownEvents]
      rw [show plain ++ (ks ++ evs'.flatMap (·.2)) = (plain ++ ks) ++ evs'.flatMap (·.2) by simp]
      rw [List.any_append, List.any_append, hks]
      rw [List.any_append] at ih
      by_cases hq : ((i :: q) == t) = true
      · simp only [hq, Bool.or_true, Bool.true_or, if_true, true_eq_decide_iff]
        omega
      · simp only [hq, Bool.or_false]
        simpa using ih

theorem ownEvents_pos (i : Nat) (u q : Taxon) (subs : List Sub) (h : 0 < ownEvents (i :: u) q subs) : q = u := by
  induction subs with
  | nil => simp [ownEvents] at h
  | cons x r ih =>
    cases x with
    | one _ _ => exact ih (by simpa [ownEvents] using h)
    | ann _ => exact ih (by simpa [ownEvents] using h)
    | dup j _ _ =>
      simp only [ownEvents] at h
      by_cases hj : ((j :: q) == (i :: u)) = true
      · simp only [beq_iff_eq, List.cons.injEq] at hj
        exact hj.2
      · rw [if_neg hj] at h
        exact ih (by simpa using h)

theorem realises_evHere (T : STree) (u : Taxon) (i : Nat) (q : Taxon) (w : Bool) (hid : Option String) (lab : Bool)
    (subs : List Sub) (info : HogInfo) (d : Option Nat) (kids : List Node) (dups : List DupRec)
    (h : Realises q (.grp w hid lab subs) (.hog info q d kids dups)) (hw : wfh T q (.grp w hid lab subs) = true) :
    (if evHere u i (.hog info q d kids dups) = true then 1 else 0) = ownEvents (i :: u) q subs := by
  simp only [Realises] at h
  obtain ⟨_, _, _, _, heq, plain, evs, hk, _, _, hs⟩ := h
  cases heq
  obtain ⟨_, _, hnd, hws⟩ := wfh_grp hw
  have hown := ownEvents_le_one i u q subs hnd
  have e1 : evHere u i (Node.hog info q d kids dups) = ((q == u) && decide (0 < ownEvents (i :: u) q subs)) := by
    unfold evHere
    show ((q == u) && kids.any (fun c => c.tx == i :: u && c.dup.isSome)) = _
    rw [hk.any_eq, realisesSubs_any T (i :: u) q subs plain evs hs hws]
  rw [e1]
  rcases Nat.eq_zero_or_pos (ownEvents (i :: u) q subs) with h0 | hpos
  · rw [h0]
    simp
  · have hq := ownEvents_pos i u q subs hpos
    have hle := hown.1
    have h1 : ownEvents (i :: u) q subs = 1 := by omega
    rw [h1, hq]
    simp

def deepFold (t : Taxon) : HFold Unit where
  F q _ l := deepEvents t q l
  FS q _ subs := deepEventsSubs t q subs
  FC q _ cs := deepEventsCopies t q cs
  here q _ subs := ownEvents t q subs
  down _ s := s
  sub s _ := s
  ev _ _ _ := 0
  grp _ _ _ _ _ _ := rfl
  nil _ _ := rfl
  one _ _ _ _ _ := rfl
  dup _ _ _ _ _ _ := by simp only [deepEventsSubs, Nat.zero_add]
  ann _ _ _ _ := rfl
  cnil _ _ := rfl
  ccons _ _ _ _ := rfl

def eventCount (T : STree) (u : Taxon) (i : Nat) : NFold (deepFold (i :: u)) where
  N _ n := (if evHere u i n = true then 1 else 0) + evCountL u i n.kids
  NL _ ks := evCountL u i ks
  ok q l := wfh T q l = true
  nil _ := rfl
  cons _ k ks := evCountL_cons u i k ks
  gene _ _ _ _ _ := by simp [evHere, Node.kids, evCountL, Node.nodesL, deepFold, deepEvents]
  hog _ q w hid lab subs info d kids dups h hw := by
    rw [realises_evHere T u i q w hid lab subs info d kids dups h hw]
    rfl
  ok_sub q _ _ _ subs j l hw hl := wfhSubs_subOf T q subs (wfh_grp hw).2.2.2 j l hl
  ev _ _ _ := rfl

/-- HOGs with a flagged child on the branch = events of the history on it -/
theorem realises_ev (T : STree) (u : Taxon) (i : Nat) (q : Taxon) (l : SL) (n : Node) (h : Realises q l n)
    (hw : wfh T q l = true) : (if evHere u i n = true then 1 else 0) + evCountL u i n.kids = deepEvents (i :: u) q l :=
  (eventCount T u i).agree q () l n h hw

theorem realisesSubs_ev (T : STree) (u : Taxon) (i : Nat) (q : Taxon) : (subs : List Sub) → (plain : List Node) →
    (evs : List (DupRec × List Node)) → RealisesSubs q subs plain evs → wfhSubs T q subs = true →
    evCountL u i plain + evCountL u i (evs.flatMap (·.2)) = deepEventsSubs (i :: u) q subs :=
  fun subs plain evs h hw => (eventCount T u i).agreeSubs q () subs plain evs h (wfhSubs_subOf T q subs hw)

theorem realisesCopies_ev (T : STree) (u : Taxon) (i : Nat) (q : Taxon) : (cs : List SL) → (ks : List Node) →
    RealisesCopies q cs ks → wfhCopies T q cs = true → evCountL u i ks = deepEventsCopies (i :: u) q cs :=
  fun cs ks h hw => (eventCount T u i).agreeCopies q () () cs ks h (fun _ _ => rfl) (wfhCopies_mem T q cs hw)

/-! ### from the located members to the counts above -/

theorem locs_tail_nodes (top : Node) :
    ∃ tl, locs [] top = ⟨top, []⟩ :: tl ∧ (∀ l ∈ tl, l.anc ≠ []) ∧ tl.map Loc.node = Node.nodesL top.kids := by
  obtain ⟨tl, h1, h2⟩ := c10_locs_head top []
  refine ⟨tl, h1, ?_, ?_⟩
  · intro l hl he
    have := h2 l hl
    rw [he] at this
    have := this.length_le
    simp at this
  · have hn := locs_nodes top []
    rw [h1, nodes_eq_cons top] at hn
    simpa using hn

theorem flagged_locs_count (top : Node) (t : Taxon) :
    (((locs [] top).filter fun l => l.node.tx == t).filter fun l => !l.anc.isEmpty && l.node.dup.isSome).length =
      flagCountL t top.kids := by
  obtain ⟨tl, h1, h2, h3⟩ := locs_tail_nodes top
  rw [h1, List.filter_filter, List.filter_cons]
  simp only [List.isEmpty_nil, Bool.not_true, Bool.false_and, Bool.false_eq_true, if_false]
  unfold flagCountL
  rw [← h3, List.filter_map, List.length_map]
  refine congrArg List.length (List.filter_congr fun l hl => ?_)
  have : l.anc.isEmpty = false := by
    cases ha : l.anc with
    | nil => exact absurd ha (h2 l hl)
    | cons _ _ => rfl
  simp [Function.comp, this, Bool.and_comm]

theorem locs_filter_node (n : Node) (anc : List Node) (P : Node → Bool) :
    ((locs anc n).filter fun l => P l.node).length = (n.nodes.filter P).length := by
  rw [← locs_nodes n anc, List.filter_map, List.length_map]
  rfl

theorem event_locs_count (top : Node) (u : Taxon) (i : Nat) :
    (((locs [] top).filter fun l => l.node.tx == u).filter (Pkid (i :: u) fun c => c.dup.isSome)).length =
      (if evHere u i top = true then 1 else 0) + evCountL u i top.kids := by
  refine Eq.trans ?_ (length_filter_cons (evHere u i) top (Node.nodesL top.kids))
  rw [← nodes_eq_cons, ← locs_filter_node top [] (evHere u i), List.filter_filter]
  exact congrArg List.length (List.filter_congr fun l _ => Bool.and_comm ..)

/-- **what the per-family profile reports, in terms of the history the family realises**: at every node `i :: u` the
    "duplicated" count is the number of copies the history's duplication events place on the branch into that node, and
    the number of duplication events is that number minus the number of events on the branch, i.e. the sum of
    (copies - 1) over the events on the branch -/
theorem realises_profile_counts (T : STree) (q : Taxon) (l : SL) (top : Node) (hr : Realises q l top)
    (hw : wfh T q l = true) (hc : LClosed (locs [] top)) (i : Nat) (u : Taxon) :
    on (profileHogAt top (i :: u)).dupl = copiesInto (i :: u) q l ∧
    on (profileHogAt top (i :: u)).duplication = copiesInto (i :: u) q l - eventsInto (i :: u) q l ∧
    eventsInto (i :: u) q l ≤ copiesInto (i :: u) q l := by
  have ha := realises_aligned q l top hr
  have hA : on (profileHogAt top (i :: u)).dupl = copiesInto (i :: u) q l := by
    rw [c10_F_dupl top ha i u, flagged_locs_count, realises_fc (i :: u) q l top hr]
  obtain ⟨hB, hle⟩ := c10_F_duplication top ha hc i u
  rw [flagged_locs_count, event_locs_count, realises_fc (i :: u) q l top hr,
    realises_ev T u i q l top hr hw, deep_eq] at hB hle
  exact ⟨hA, hB, hle⟩

theorem internal_of_child (T : STree) (i : Nat) (u : Taxon) (ht : (i :: u) ∈ T.allTaxa) : T.isInternalAt u = true := by
  have hl := c10_internal_not_leaf T i u ht
  have hu := up_mem_allTaxa T i u ht
  rw [mem_allTaxa_iff] at hu
  unfold STree.isLeafAt at hl
  unfold STree.isInternalAt
  cases hs : T.sub u with
  | none =>
    rw [hs] at hu
    cases hu
  | some x =>
    rw [hs] at hl
    simp only at hl
    simp [hl]

namespace Loaded
variable {D : Dataset} {H : Ham}

theorem profile_numbers (L : Loaded D H) (i : Nat) (u : Taxon)
    (ht : (i :: u) ∈ H.tree.allTaxa) :
    on (profileFullAt H (i :: u)).dupl = (D.fams.map fun f => copiesInto (i :: u) f.1 f.2).sum ∧
    on (profileFullAt H (i :: u)).duplication =
      (D.fams.map fun f => copiesInto (i :: u) f.1 f.2 - eventsInto (i :: u) f.1 f.2).sum := by
  obtain ⟨_, _, hd, _, _, hdn⟩ := C10_profiles_add_up H L.wf L.sizes i u ht
  have per := fun p (hp : p ∈ H.tops) e (he : e ∈ D.fams) (hr : Realises e.1 e.2 p.2) =>
    realises_profile_counts D.T e.1 e.2 p.2 hr (L.wfh e he) (c10_locs_closed L.wfc hp) i u
  rw [hd, hdn]
  exact ⟨L.famSum _ _ (fun p hp e he hr => (per p hp e he hr).1),
    L.famSum _ (fun q l => copiesInto (i :: u) q l - eventsInto (i :: u) q l)
      (fun p hp e he hr => (per p hp e he hr).2.1)⟩

/-- genome size and singletons are still read off the hierarchy: they differ between ancestral nodes and leaves -/
theorem profile_entry (L : Loaded D H) (i : Nat) (u : Taxon)
    (ht : (i :: u) ∈ H.tree.allTaxa) :
    ∃ ret lost,
      profileFullAt H (i :: u) =
        { tx := i :: u, nbr := H.genomeSize (i :: u),
          dupl := some ((D.fams.map fun f => copiesInto (i :: u) f.1 f.2).sum),
          lost := some lost,
          gain := some ((D.fams.filter fun f => f.1 == i :: u).length + (singletonsAt H (i :: u)).length),
          retained := some ret,
          duplication := some ((D.fams.map fun f => copiesInto (i :: u) f.1 f.2 - eventsInto (i :: u) f.1 f.2).sum),
          nbrEvents := some ((D.fams.map fun f => copiesInto (i :: u) f.1 f.2 - eventsInto (i :: u) f.1 f.2).sum +
            lost + ((D.fams.filter fun f => f.1 == i :: u).length + (singletonsAt H (i :: u)).length)) } ∧
      H.genomeSize (i :: u) =
        ret + (D.fams.map fun f => copiesInto (i :: u) f.1 f.2).sum +
          ((D.fams.filter fun f => f.1 == i :: u).length + (singletonsAt H (i :: u)).length) ∧
      H.genomeSize (i :: u) + lost =
        (D.fams.map fun f => lineagesAt u f.1 f.2).sum +
          ((D.fams.filter fun f => f.1 == i :: u).length + (singletonsAt H (i :: u)).length) +
          (D.fams.map fun f => copiesInto (i :: u) f.1 f.2 - eventsInto (i :: u) f.1 f.2).sum := by
  obtain ⟨nd, lost, gain, ret, dpl, hprof, hb1, hb2, _⟩ := C09_balance H L.wfc L.sizes i u ht (up_mem_allTaxa _ i u ht)
  obtain ⟨hd, hdn⟩ := L.profile_numbers i u ht
  obtain ⟨_, hg, _, _, _, _⟩ := C10_profiles_add_up H L.wf L.sizes i u ht
  rw [hprof] at hd hdn hg
  simp only [on, Option.getD_some] at hd hdn hg
  rw [L.roots] at hg
  rw [L.genomeSize u (L.tree ▸ internal_of_child _ i u ht)] at hb2
  subst hd hdn hg
  exact ⟨ret, lost, hprof, hb1, hb2⟩

end Loaded

/-- **end to end**: for every consistent dataset the whole-dataset tree profile reports, at every non-root node, as
    "duplicated" the number of copies that the duplication events of the encoded histories place on the branch into the
    node, and as number of duplication events the sum over those events of (copies - 1) -/
theorem C09_profile_numbers_are_the_history (D : Dataset) (hc : D.Consistent) :
    ∃ H, load D.T D.nm D.file = .ok H ∧ ∀ i u, (i :: u) ∈ H.tree.allTaxa →
      on (profileFullAt H (i :: u)).dupl = (D.fams.map fun f => copiesInto (i :: u) f.1 f.2).sum ∧
      on (profileFullAt H (i :: u)).duplication =
        (D.fams.map fun f => copiesInto (i :: u) f.1 f.2 - eventsInto (i :: u) f.1 f.2).sum := by
  obtain ⟨H, L⟩ := Loaded.of_consistent D hc
  exact ⟨H, L.eq, L.profile_numbers⟩

/-- **the whole profile entry of an ancestral node is a function of the histories**: number of genes = lineages crossing
    the node, gained = families that start there, duplicated = copies placed on the branch, duplication events, retained and
    lost by the two balance equations -/
theorem C09_profile_from_histories (D : Dataset) (hc : D.Consistent) :
    ∃ H, load D.T D.nm D.file = .ok H ∧ ∀ i u, (i :: u) ∈ H.tree.allTaxa → D.T.isInternalAt (i :: u) = true →
      ∃ ret lost,
        profileFullAt H (i :: u) =
          { tx := i :: u, nbr := (D.fams.map fun f => lineagesAt (i :: u) f.1 f.2).sum,
            dupl := some ((D.fams.map fun f => copiesInto (i :: u) f.1 f.2).sum),
            lost := some lost,
            gain := some ((D.fams.filter fun f => f.1 == i :: u).length),
            retained := some ret,
            duplication := some ((D.fams.map fun f => copiesInto (i :: u) f.1 f.2 - eventsInto (i :: u) f.1 f.2).sum),
            nbrEvents := some ((D.fams.map fun f => copiesInto (i :: u) f.1 f.2 - eventsInto (i :: u) f.1 f.2).sum +
              lost + (D.fams.filter fun f => f.1 == i :: u).length) } ∧
        (D.fams.map fun f => lineagesAt (i :: u) f.1 f.2).sum =
          ret + (D.fams.map fun f => copiesInto (i :: u) f.1 f.2).sum + (D.fams.filter fun f => f.1 == i :: u).length ∧
        (D.fams.map fun f => lineagesAt (i :: u) f.1 f.2).sum + lost =
          (D.fams.map fun f => lineagesAt u f.1 f.2).sum + (D.fams.filter fun f => f.1 == i :: u).length +
            (D.fams.map fun f => copiesInto (i :: u) f.1 f.2 - eventsInto (i :: u) f.1 f.2).sum := by
  obtain ⟨H, L⟩ := Loaded.of_consistent D hc
  refine ⟨H, L.eq, ?_⟩
  intro i u ht hint
  have h := L.profile_entry i u ht
  rw [L.no_singletons _ hint, List.length_nil, Nat.add_zero, L.genomeSize _ hint] at h
  exact h

end Pyham
