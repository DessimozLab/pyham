/-
  `x.All P`: the value `x` returns, if any, satisfies `P`.  With the rule for `bind`, a proof that a step of the loader
  keeps a property follows the definition of the step instead of taking `step … = .ok r` apart.  Also the facts about
  `bind` on `Except` that the files about the loader share.
-/
namespace Except
variable {ε α β : Type _} {P : α → Prop} {Q : β → Prop} {x : Except ε α}

def All (P : α → Prop) : Except ε α → Prop
  | .ok a => P a
  | .error _ => True

theorem All.of_eq {a : α} (h : x.All P) (e : x = .ok a) : P a := by
  subst e
  exact h

theorem All.mono {P' : α → Prop} (h : x.All P) (hP : ∀ a, P a → P' a) : x.All P' := by
  cases x with
  | error e => trivial
  | ok a => exact hP a h

theorem All.bind {f : α → Except ε β} (hx : x.All P) (hf : ∀ a, P a → (f a).All Q) : (x >>= f).All Q := by
  cases x with
  | error e => trivial
  | ok a => exact hf a hx

theorem All.bind_congr {f g : α → Except ε β} (hx : x.All P) (h : ∀ a, P a → f a = g a) :
    x >>= f = x >>= g := by
  cases x with
  | error e => rfl
  | ok a => exact h a hx

theorem all_true : x.All fun _ => True := by
  cases x <;> trivial

theorem bind_ok {f : α → Except ε β} {b : β} (h : x >>= f = .ok b) : ∃ a, x = .ok a ∧ f a = .ok b := by
  cases x with
  | error e => cases h
  | ok a => exact ⟨a, rfl, h⟩

theorem ite_error_ok {c : Prop} [Decidable c] {e : ε} {y : α} (h : (if c then .error e else x) = .ok y) :
    ¬c ∧ x = .ok y := by
  split at h
  · cases h
  · exact ⟨‹_›, h⟩

theorem bind_error_left (f : α → Except ε β) (h : ∃ e, x = .error e) : ∃ e, x >>= f = .error e := by
  obtain ⟨e, rfl⟩ := h
  exact ⟨e, rfl⟩

theorem bind_error_right (f : α → Except ε β) (h : ∀ a, x = .ok a → ∃ e, f a = .error e) :
    ∃ e, x >>= f = .error e := by
  cases x with
  | error e => exact ⟨e, rfl⟩
  | ok a => exact h a rfl

theorem bind_bind {γ : Type _} (x : Except ε α) (f : α → Except ε β) (g : β → Except ε γ) :
    (x.bind f).bind g = x.bind fun a => (f a).bind g := by
  cases x <;> rfl

/-- `bind_bind` from right to left, the inner continuation given up to an equation under the binder -/
theorem bind_eq_bind_bind {γ : Type _} {k : α → Except ε γ} {f : α → Except ε β} {g : β → Except ε γ}
    (h : ∀ a, k a = (f a).bind g) : x.bind k = (x.bind f).bind g := by
  cases x with
  | error e => rfl
  | ok a => exact h a

/-- the same run packed in two ways, continued alike -/
theorem bind_ok_bind {β' γ : Type _} {a : α → β} {a' : α → β'} {b : β → Except ε γ}
    {b' : β' → Except ε γ} (h : ∀ q, b (a q) = b' (a' q)) :
    (x.bind fun q => .ok (a q)).bind b = (x.bind fun q => .ok (a' q)).bind b' := by
  cases x with
  | error e => rfl
  | ok q => exact h q

theorem ite_eq_map_ite {c : Prop} [Decidable c] {f : α → β} {x y : Except ε β} {x' y' : Except ε α}
    (h1 : c → x = x'.map f) (h2 : ¬c → y = y'.map f) :
    (if c then x else y) = (if c then x' else y').map f := by
  split
  · exact h1 ‹c›
  · exact h2 ‹¬c›

theorem map_bind_eq {ε α α' β β'} {x : Except ε α} {f : α → α'} {g : α' → Except ε β'} {g' : α → Except ε β}
    {k : β → β'} (h : ∀ a, g (f a) = (g' a).map k) : (x.map f >>= g) = (x >>= g').map k := by
  cases x with
  | error e => rfl
  | ok a => exact h a

theorem bind_eq_map_bind {ε α β β'} {x : Except ε α} {g : α → Except ε β'} {g' : α → Except ε β} {k : β → β'}
    (h : ∀ a, g a = (g' a).map k) : (x >>= g) = (x >>= g').map k := by
  cases x with
  | error e => rfl
  | ok a => exact h a

end Except
