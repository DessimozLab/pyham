/-
  Every top-level HOG of a well-formed analysis (hence, by `HogFacts.sub`, every sub-HOG) satisfies
  the hypotheses of the round-trip theorem.
-/
import PyhamModel.Lemmas.Roundtrip
namespace Pyham

theorem exportWF_of_wf (H : Ham) (hw : H.wf = true) (p : Option String × Node) (hp : p ∈ H.tops) :
    ExportWF H.tree p.2 := by
  have hwc := Ham.wf_WFc H hw
  simp only [Ham.wf, Bool.and_eq_true, List.all_eq_true, decide_eq_true_eq] at hw
  obtain ⟨⟨⟨h1, _⟩, _⟩, _⟩ := hw
  have ht := h1 p hp
  refine ⟨ht.1.1.1.1, ht.1.1.1.2, ht.1.1.2, ?_⟩
  -- the keys of the nodes of one family are a sublist of all keys
  have hk := hwc.keys
  unfold Ham.keys at hk
  have hsub : ((locs [] p.2).map fun l => l.node.key).Sublist (H.allLocs.map fun l => l.node.key) := by
    apply List.Sublist.map
    unfold Ham.allLocs
    refine List.Sublist.trans ?_ (List.sublist_append_left _ _)
    exact sublist_flatMap_of_mem (fun p => locs [] p.2) H.tops p hp
  have := hk.sublist hsub
  have e : ((locs [] p.2).map fun l => l.node.key) = (p.2.nodes.map Node.key) := by
    rw [← locs_nodes p.2 [], List.map_map]; rfl
  rw [e] at this
  exact this

end Pyham
