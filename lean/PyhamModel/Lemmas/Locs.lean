/-
  Structure of `locs`: located nodes of a subtree, their ancestor lists, decomposition at an
  ancestor, inheritance of the well-formedness predicates, children and parents of located nodes.
-/
import PyhamModel.Lemmas.Search
namespace Pyham

theorem mem_locs_hog {info : HogInfo} {t : Taxon} {d : Option Nat} {ks : List Node} {ds : List DupRec}
    {anc : List Node} {l : Loc} :
    l ∈ locs anc (.hog info t d ks ds) ↔
      l = ⟨.hog info t d ks ds, anc⟩ ∨ l ∈ locsL (.hog info t d ks ds :: anc) ks := by
  simp [locs]

theorem mem_locsL {anc : List Node} {l : Loc} {ks : List Node} :
    l ∈ locsL anc ks ↔ ∃ k ∈ ks, l ∈ locs anc k := by
  induction ks with
  | nil => simp [locsL]
  | cons k ks ih => simp only [locsL, List.mem_append, List.mem_cons, exists_eq_or_imp, ih]

theorem self_mem_locs (anc : List Node) : (n : Node) → ⟨n, anc⟩ ∈ locs anc n
  | .gene .. => by simp [locs]
  | .hog .. => by simp [locs]

theorem locs_induction {P : List Node → Node → Loc → Prop}
    (self : ∀ anc n, P anc n ⟨n, anc⟩)
    (kid : ∀ anc n k l, k ∈ n.kids → l ∈ locs (n :: anc) k → P (n :: anc) k l → P anc n l) :
    (n : Node) → (anc : List Node) → ∀ l ∈ locs anc n, P anc n l
  | .gene i t d lo, anc => by
    intro l hl
    rw [locs, List.mem_singleton] at hl
    exact hl ▸ self anc _
  | .hog info t d ks ds, anc => by
    intro l hl
    rcases mem_locs_hog.mp hl with rfl | hl
    · exact self anc _
    · obtain ⟨k, hk, hl⟩ := mem_locsL.mp hl
      exact kid anc _ k l hk hl (locs_induction self kid k _ l hl)
termination_by n => sizeOf n
decreasing_by
  have := List.sizeOf_lt_of_mem hk
  simp +arith
  omega

theorem mem_locs {anc : List Node} {n : Node} {l : Loc} :
    l ∈ locs anc n ↔ l = ⟨n, anc⟩ ∨ ∃ k ∈ n.kids, l ∈ locs (n :: anc) k := by
  cases n with
  | gene => simp [locs, Node.kids]
  | hog => rw [mem_locs_hog, mem_locsL]; rfl

theorem locs_anc_suffix (n : Node) (anc : List Node) : ∀ l ∈ locs anc n, anc <:+ l.anc :=
  locs_induction (P := fun anc _ l => anc <:+ l.anc) (fun _ _ => List.suffix_refl _)
    (fun _ _ _ _ _ _ ih => (List.suffix_cons _ _).trans ih) n anc

theorem locs_anc_cases (n : Node) (anc : List Node) : ∀ l ∈ locs anc n, l = ⟨n, anc⟩ ∨ (n :: anc) <:+ l.anc :=
  locs_induction (P := fun anc n l => l = ⟨n, anc⟩ ∨ (n :: anc) <:+ l.anc) (fun _ _ => Or.inl rfl)
    (fun _ _ k l _ hl _ => Or.inr (locs_anc_suffix k _ l hl)) n anc

/-- decomposition at an ancestor: if `x` occurs in the ancestor list of `l` (above `post`), then `x`
    is itself located in the subtree with ancestors `post`, and `l` is located in the subtree of `x` -/
theorem locs_split (n : Node) (anc : List Node) : ∀ l ∈ locs anc n, ∀ pre x post,
    l.anc = pre ++ x :: post → anc.length ≤ post.length →
    (⟨x, post⟩ : Loc) ∈ locs anc n ∧ l ∈ locs post x := by
  refine locs_induction (P := fun anc n l => ∀ pre x post, l.anc = pre ++ x :: post → anc.length ≤ post.length →
    (⟨x, post⟩ : Loc) ∈ locs anc n ∧ l ∈ locs post x) ?_ ?_ n anc
  · intro anc n pre x post he hlen
    have := congrArg List.length he
    simp at this
    omega
  · intro anc n k l hk hl ih pre x post he hlen
    by_cases hlen' : (n :: anc).length ≤ post.length
    · exact ⟨mem_locs.2 (Or.inr ⟨k, hk, (ih pre x post he hlen').1⟩), (ih pre x post he hlen').2⟩
    · -- `post` is as long as `anc`: both are the end of `l.anc = q ++ n :: anc`, so `x` is `n`
      obtain ⟨q, hq⟩ := locs_anc_suffix k _ l hl
      have hpl : post.length = anc.length := by simp at hlen'; omega
      have h2 : q ++ n :: anc = pre ++ x :: post := hq.trans he
      have hl1 : q.length = pre.length := by
        have := congrArg List.length h2
        simp at this; omega
      obtain ⟨hx, hp⟩ := List.cons.inj (List.append_inj h2 hl1).2
      subst hx; subst hp
      exact ⟨self_mem_locs _ _, mem_locs.2 (Or.inr ⟨k, hk, hl⟩)⟩

/-! ### sub-nodes inherit alignment and discipline -/

theorem alignedL_mem {t : Taxon} {ks : List Node} (h : alignedL t ks = true) :
    ∀ k ∈ ks, oneBelow t k = true ∧ k.aligned = true := by
  induction ks with
  | nil => simp
  | cons k ks ih =>
    simp only [alignedL, Bool.and_eq_true] at h
    intro k' hk'
    simp at hk'
    rcases hk' with rfl | hk'
    · exact ⟨h.1.1, h.1.2⟩
    · exact ih h.2 k' hk'

theorem disciplinedL_mem {ks : List Node} (h : disciplinedL ks = true) : ∀ k ∈ ks, k.disciplined = true := by
  induction ks with
  | nil => simp
  | cons k ks ih =>
    simp only [disciplinedL, Bool.and_eq_true] at h
    intro k' hk'
    simp at hk'
    rcases hk' with rfl | hk'
    · exact h.1
    · exact ih h.2 k' hk'

theorem aligned_kid {n k : Node} (h : n.aligned = true) (hk : k ∈ n.kids) :
    (∃ i, k.tx = i :: n.tx) ∧ k.aligned = true := by
  cases n with
  | gene => exact nomatch hk
  | hog info t d ks ds =>
    have := alignedL_mem (t := t) (ks := ks) (by simpa [Node.aligned] using h) k hk
    exact ⟨oneBelow_iff.mp this.1, this.2⟩

theorem disciplined_kid {n k : Node} (h : n.disciplined = true) (hk : k ∈ n.kids) :
    aloneIfUnflagged n.kids k = true ∧ k.disciplined = true := by
  cases n with
  | gene => exact nomatch hk
  | hog info t d ks ds =>
    simp only [Node.disciplined, Bool.and_eq_true] at h
    exact ⟨List.all_eq_true.mp h.1 k hk, disciplinedL_mem h.2 k hk⟩

theorem locs_aligned (n : Node) (anc : List Node) (ha : n.aligned = true) :
    ∀ l ∈ locs anc n, l.node.aligned = true :=
  fun l hl => locs_induction (P := fun _ n l => n.aligned = true → l.node.aligned = true) (fun _ _ h => h)
    (fun _ _ _ _ hk _ ih h => ih (aligned_kid h hk).2) n anc l hl ha

theorem locs_disciplined (n : Node) (anc : List Node) (hd : n.disciplined = true) :
    ∀ l ∈ locs anc n, l.node.disciplined = true :=
  fun l hl => locs_induction (P := fun _ n l => n.disciplined = true → l.node.disciplined = true) (fun _ _ h => h)
    (fun _ _ _ _ hk _ ih h => ih (disciplined_kid h hk).2) n anc l hl hd

theorem locs_tx_suffix (n : Node) (anc : List Node) (ha : n.aligned = true) :
    ∀ l ∈ locs anc n, n.tx <:+ l.node.tx :=
  fun l hl => locs_induction (P := fun _ n l => n.aligned = true → n.tx <:+ l.node.tx)
    (fun _ _ _ => List.suffix_refl _)
    (fun _ n k _ hk _ ih h => by
      obtain ⟨⟨i, hi⟩, hka⟩ := aligned_kid h hk
      exact (hi ▸ List.suffix_cons i n.tx).trans (ih hka)) n anc l hl ha

theorem chain_locs (n : Node) (anc : List Node) (ha : n.aligned = true) (hc : Chain n.tx anc) :
    ∀ l ∈ locs anc n, Chain l.node.tx l.anc :=
  fun l hl => locs_induction (P := fun anc n l => n.aligned = true → Chain n.tx anc → Chain l.node.tx l.anc)
    (fun _ _ _ hc => hc)
    (fun _ _ _ _ hk _ ih h hc => by
      obtain ⟨⟨i, hi⟩, hka⟩ := aligned_kid h hk
      exact ih hka ⟨⟨i, hi⟩, hc⟩) n anc l hl ha hc

theorem locs_nodes : (top : Node) → (anc : List Node) → (locs anc top).map Loc.node = top.nodes
  | .gene i t d l, anc => by simp [locs, Node.nodes]
  | .hog info t d ks ds, anc => by
    simp [locs, Node.nodes, locsL_nodes ks]
where
  locsL_nodes : (ks : List Node) → (anc : List Node) → (locsL anc ks).map Loc.node = Node.nodesL ks
    | [], _ => by simp [locsL, Node.nodesL]
    | k :: ks, anc => by
      simp only [locsL, Node.nodesL, List.map_append]
      rw [locs_nodes k anc, locsL_nodes ks anc]

theorem locs_sub (n : Node) (anc : List Node) : ∀ l ∈ locs anc n, ∀ m ∈ locs l.anc l.node, m ∈ locs anc n :=
  locs_induction (P := fun anc n l => ∀ m ∈ locs l.anc l.node, m ∈ locs anc n) (fun _ _ _ hm => hm)
    (fun _ _ k _ hk _ ih m hm => mem_locs.2 (Or.inr ⟨k, hk, ih m hm⟩)) n anc

theorem locs_kid (n : Node) (anc : List Node) (x : Loc) (hx : x ∈ locs anc n) (c : Node)
    (hc : c ∈ x.node.kids) : (⟨c, x.node :: x.anc⟩ : Loc) ∈ locs anc n :=
  locs_sub n anc x hx _ (mem_locs.2 (Or.inr ⟨c, hc, self_mem_locs _ c⟩))

theorem locs_child (y : Node) (rest : List Node) (l : Loc) (hl : l ∈ locs rest y)
    (he : l.anc = y :: rest) : l.node ∈ y.kids := by
  rcases mem_locs.1 hl with rfl | ⟨k, hk, hlk⟩
  · exact absurd (congrArg List.length he) (by simp)
  · rcases locs_anc_cases k _ l hlk with rfl | hs
    · exact hk
    · have := hs.length_le
      rw [he] at this
      simp only [List.length_cons] at this
      omega

/-- a declared gene referenced by no family is a bare gene node -/
theorem singletons_gene {H : Ham} {g : Node} (hg : g ∈ H.singletons) : ∃ i t, g = .gene i t none none := by
  obtain ⟨r, _, rfl⟩ := List.mem_map.mp hg
  exact ⟨r.id, r.tx, rfl⟩

end Pyham
