/-
  C18: the stored Newick text re-parses to the same named topology, polytomies included
  (for the model's writer / reader pair; equality of the model's writer with ete3's is checked by the
  correspondence run on generated trees).
-/
import PyhamModel.Model.Newick
namespace Pyham

mutual
/-- the String writer of the model writes the characters of `writeChars` on the named tree -/
theorem newickBody_chars {nm : Naming} : (t : STree) →
    (STree.newickBody nm t).toList = writeChars (STree.named nm t)
  | .node _ [] => rfl
  | .node n (k :: ks) => by
    show ("(" ++ STree.newickL nm (k :: ks) ++ ")" ++ _).toList
      = '(' :: writeCharsL (STree.named.namedL nm (k :: ks)) ++ ')' :: _
    simp [newickL_chars_aux nm (k :: ks)]
/-- the same for a list of children -/
theorem newickL_chars_aux (nm : Naming) : (ks : List STree) →
    (STree.newickL nm ks).toList = writeCharsL (STree.named.namedL nm ks)
  | [] => String.toList_empty
  | [k] => newickBody_chars k
  | k :: k2 :: ks => by
    show (STree.newickBody nm k ++ "," ++ STree.newickL nm (k2 :: ks)).toList
      = writeChars _ ++ ',' :: writeCharsL (STree.named.namedL nm (k2 :: ks))
    simp [newickBody_chars k, newickL_chars_aux nm (k2 :: ks)]
end

section
variable {f : Nat} {n cs rest : List Char}

theorem takeWhile_clean (hn : n.all isNameChar = true)
    (hr : ∀ c ∈ rest.head?, isNameChar c = false) :
    (n ++ rest).takeWhile isNameChar = n ∧ (n ++ rest).dropWhile isNameChar = rest := by
  induction n with
  | nil =>
    cases rest with
    | nil => simp
    | cons c cs => simp [hr c rfl]
  | cons a n ih =>
    have ⟨ha, hn⟩ := Bool.and_eq_true_iff.mp hn
    simp [ha, ih hn]

theorem head_clean (hn : n.all isNameChar = true) (hp : rest.head? ≠ some '(') :
    (n ++ rest).head? ≠ some '(' := by
  cases n with
  | nil => exact hp
  | cons a n =>
    intro h
    cases Option.some.inj h
    exact Bool.noConfusion hn

theorem stop_cons {c : Char} (h : isNameChar c = false) :
    ∀ c' ∈ (c :: rest).head?, isNameChar c' = false :=
  fun _ hc => Option.some.inj hc ▸ h

theorem readTree_open : readTree (f + 1) ('(' :: cs) =
    match readTree.readList f cs with
    | some (ks, ')' :: rest) =>
      some (.node (String.ofList (rest.takeWhile isNameChar)) ks, rest.dropWhile isNameChar)
    | _ => none := by
  rfl

theorem readList_succ : readTree.readList (f + 1) cs =
    match readTree f cs with
    | some (k, ',' :: rest) =>
      match readTree.readList f rest with
      | some (ks, rest') => some (k :: ks, rest')
      | none => none
    | some (k, rest) => some ([k], rest)
    | none => none := by
  rfl

/- `readTree` tests the first character by a `dite`, which `rw [readTree]` reaches only through the unfolding
   equation of the mutual pair; without smart unfolding the call reduces to that `dite`. -/
set_option smartUnfolding false
theorem readTree_leaf (h : cs.head? ≠ some '(') : readTree (f + 1) cs
    = some (.node (String.ofList (cs.takeWhile isNameChar)) [], cs.dropWhile isNameChar) := by
  cases cs with
  | nil => rfl
  | cons c cs => exact congrFun (dif_neg fun e => h (congrArg some e)) _

end

mutual
/-- reading what was written returns the tree and leaves the rest of the input untouched, provided
    the names contain none of `( ) , ;` and the rest does not continue the last name.
    (Without `hp` it is false: `readTree_writeChars_counterexample`.) -/
theorem readTree_writeChars_partial (t : STree) (hc : t.namesClean = true) (rest : List Char)
    (hr : ∀ c ∈ rest.head?, isNameChar c = false) (hp : rest.head? ≠ some '(')
    (fuel : Nat) (hf : (writeChars t).length + 1 ≤ fuel) :
    readTree fuel (writeChars t ++ rest) = some (t, rest) := by
  obtain ⟨f, rfl⟩ := Nat.exists_eq_add_one.mpr (Nat.zero_lt_of_lt hf)
  cases t with
  | node n ks =>
  have ⟨hn, hks⟩ := Bool.and_eq_true_iff.mp hc
  have ⟨h1, h2⟩ := takeWhile_clean hn hr
  cases ks with
  | nil =>
    show readTree _ (n.toList ++ rest) = _
    rw [readTree_leaf (head_clean hn hp), h1, h2, String.ofList_toList]
  | cons k ks =>
    have hf : (writeCharsL (k :: ks) ++ ')' :: n.toList).length + 1 ≤ f :=
      Nat.le_of_succ_le_succ hf
    rw [List.length_append] at hf
    have ih := readList_wc (k :: ks) nofun hks (n.toList ++ rest) f
      (Nat.lt_of_le_of_lt (Nat.add_le_add_left (Nat.succ_pos _) _) hf)
    show readTree _ ('(' :: ((writeCharsL (k :: ks) ++ ')' :: n.toList) ++ rest)) = _
    simp only [readTree_open, List.append_assoc, List.cons_append, ih, h1, h2,
      String.ofList_toList]
/-- the same for the children of a node, up to the closing `)` -/
theorem readList_wc : (ks : List STree) → ks ≠ [] → namesCleanL ks = true → (rest : List Char) →
    (fuel : Nat) → (writeCharsL ks).length + 2 ≤ fuel →
    readTree.readList fuel (writeCharsL ks ++ ')' :: rest) = some (ks, ')' :: rest) := by
  intro ks hne hc rest fuel hf
  obtain ⟨f, rfl⟩ := Nat.exists_eq_add_one.mpr (Nat.zero_lt_of_lt hf)
  cases ks with
  | nil => exact absurd rfl hne
  | cons k ks =>
  have ⟨hk, hks⟩ := Bool.and_eq_true_iff.mp hc
  cases ks with
  | nil =>
    have ih := readTree_writeChars_partial k hk (')' :: rest) (stop_cons rfl) (by simp) f
      (Nat.le_of_succ_le_succ hf)
    show readTree.readList _ (writeChars k ++ _) = _
    rw [readList_succ, ih]
    rfl
  | cons k2 ks =>
    have hb := Nat.le_of_succ_le_succ hf
    have ih1 := readTree_writeChars_partial k hk (',' :: (writeCharsL (k2 :: ks) ++ ')' :: rest))
      (stop_cons rfl) (by simp) f
      (Nat.lt_of_le_of_lt (List.sublist_append_left _ _).length_le hb)
    have ih2 := readList_wc (k2 :: ks) nofun hks rest f
      (Nat.lt_of_le_of_lt
        (List.sublist_append_right _ (',' :: writeCharsL (k2 :: ks))).length_le hb)
    show readTree.readList _ ((writeChars k ++ ',' :: writeCharsL (k2 :: ks)) ++ _) = _
    simp only [readList_succ, List.append_assoc, List.cons_append, ih1, ih2]
end

/-- without `hp`: the leaf named "" writes nothing, and a rest `(` is read as the start of a child list -/
theorem readTree_writeChars_counterexample :
    ∃ (t : STree) (rest : List Char) (fuel : Nat), t.namesClean = true ∧
      (∀ c ∈ rest.head?, isNameChar c = false) ∧ (writeChars t).length + 1 ≤ fuel ∧
      readTree fuel (writeChars t ++ rest) = none :=
  ⟨.node "" [], ['('], 1, by decide, stop_cons rfl, by decide, by decide⟩

/-- **C18 (Newick round-trip)**: for every tree (any arity, any shape) whose names -- the tree's own
    or the synthesised ones -- contain none of the characters `( ) , ;`, the stored Newick text
    re-parses to the same named topology -/
theorem C18_newick_roundtrip (nm : Naming) (T : STree) (hc : (STree.named nm T).namesClean = true) :
    parseNewick (T.newick nm) = some (STree.named nm T) := by
  have hl : (T.newick nm).toList = writeChars (STree.named nm T) ++ [';'] := by
    simp [STree.newick, newickBody_chars]
  unfold parseNewick
  rw [hl, readTree_writeChars_partial _ hc [';'] (stop_cons rfl) (by simp)]
  · rfl
  · rw [← String.length_toList, hl, List.length_append]
    exact Nat.le_succ _

/-- names over this alphabet meet the hypothesis `namesClean` of C18 -/
theorem alphabet_clean (c : Char)
    (h : c.isAlphanum = true ∨ c = ' ' ∨ c = '_' ∨ c = '-' ∨ c = '.' ∨ c = '/') : isNameChar c = true := by
  rcases h with h | rfl | rfl | rfl | rfl | rfl
  · simp only [isNameChar, Bool.and_eq_true, bne_iff_ne, ne_eq]
    refine ⟨⟨⟨?_, ?_⟩, ?_⟩, ?_⟩
    all_goals
      rintro rfl
      revert h
      decide
  all_goals decide

end Pyham
