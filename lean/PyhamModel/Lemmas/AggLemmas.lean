/-
  C08 (aggregated views of the lateral comparison), C09 (the HTML export embeds exactly the numbers of
  the profile), C12 (one family-data record per member gene).
-/
import PyhamModel.Model.Agg
import PyhamModel.Lemmas.Lateral
import PyhamModel.Lemmas.Partition
namespace Pyham

theorem nested_fold {α γ β} (maps : List α) (items : α → List γ) (kf : α → γ → Node) (vf : α → γ → β)
    (d0 : List (Node × List β)) :
    maps.foldl (fun d e => (items e).foldl (fun d x => sdAppend d (kf e x) (vf e x)) d) d0 =
      (maps.flatMap fun e => (items e).map fun x => (kf e x, vf e x)).foldl (fun d p => sdAppend d p.1 p.2) d0 := by
  induction maps generalizing d0 with
  | nil => rfl
  | cons e es ih =>
    simp only [List.foldl_cons, List.flatMap_cons, List.foldl_append, List.foldl_map, ih]

theorem lookup_of_mem_unique {κ β} [BEq κ] [LawfulBEq κ] (l : List (κ × β)) (k : κ) (v : β)
    (hm : (k, v) ∈ l) (hu : ∀ v', (k, v') ∈ l → v' = v) : l.lookup k = some v := by
  induction l with
  | nil => simp at hm
  | cons a l ih =>
    obtain ⟨k', v'⟩ := a
    by_cases hk : k = k'
    · subst hk
      have := hu v' (List.mem_cons_self)
      subst this
      simp [List.lookup]
    · have hk' : (k == k') = false := by simp [hk]
      simp only [List.lookup, hk']
      apply ih
      · rcases List.mem_cons.1 hm with h | h
        · exact absurd (Prod.mk.inj h).1 hk
        · exact h
      · intro v'' h
        exact hu v'' (List.mem_cons_of_mem _ h)

theorem mem_of_lookup {κ β} [BEq κ] [LawfulBEq κ] (l : List (κ × β)) (k : κ) (v : β)
    (h : l.lookup k = some v) : (k, v) ∈ l := by
  induction l with
  | nil => simp at h
  | cons a l ih =>
    obtain ⟨k', v'⟩ := a
    by_cases hk : k = k'
    · subst hk
      simp [List.lookup] at h
      subst h
      exact List.mem_cons_self
    · have hk' : (k == k') = false := by simp [hk]
      simp only [List.lookup, hk'] at h
      exact List.mem_cons_of_mem _ (ih h)

theorem filterMap_keys_sublist {β δ} (d : List (Node × β)) (f : β → Option δ) :
    ((d.filterMap fun en => (f en.2).map fun v => (en.1, v)).map (·.1.key)).Sublist (d.map (·.1.key)) := by
  induction d with
  | nil => simp
  | cons a d ih =>
    simp only [List.filterMap_cons, List.map_cons]
    cases f a.2 with
    | none => exact ih.cons _
    | some v => exact ih.cons_cons _

/-- `w` is a value that only an item of genome `e.1` can contribute -/
theorem mem_sdFold_genome {α γ β : Type} (maps : List (Taxon × α)) (items : α → List γ) (kf : γ → Node)
    (vf : Taxon → γ → β) (hn : (maps.map (·.1)).Nodup) (e : Taxon × α) (he : e ∈ maps) (w : β)
    (hw : ∀ g x, vf g x = w → g = e.1) (k : Key) :
    (∃ en ∈ sdFold (maps.flatMap fun e => (items e.2).map fun x => (kf x, vf e.1 x)), en.1.key = k ∧ w ∈ en.2) ↔
      ∃ x ∈ items e.2, (kf x).key = k ∧ vf e.1 x = w := by
  rw [mem_sdFold]
  constructor
  · rintro ⟨p, hp, hpk, hp2⟩
    obtain ⟨e', he', hp⟩ := List.mem_flatMap.1 hp
    obtain ⟨x, hx, rfl⟩ := List.mem_map.1 hp
    have := inj_of_nodup_map _ hn he' he (hw _ _ hp2)
    subst this
    exact ⟨x, hx, hpk, hp2⟩
  · rintro ⟨x, hx, hk, hv⟩
    exact ⟨_, List.mem_flatMap.2 ⟨e, he, List.mem_map.2 ⟨x, hx, rfl⟩⟩, hk, hv⟩

/-- the Ho ↦ [Gn] view, restricted to one genome -/
theorem agg_lost_perm {α : Type} (maps : List (Taxon × α)) (items : α → List Node)
    (hn : (maps.map (·.1)).Nodup) (e : Taxon × α) (he : e ∈ maps)
    (hk : ((items e.2).map Node.key).Nodup) :
    ((((maps.foldl (fun d e => (items e.2).foldl (fun d x => sdAppend d x e.1) d) []).filter
        fun en => en.2.contains e.1).map (·.1)).map Node.key).Perm ((items e.2).map Node.key) := by
  rw [nested_fold maps (fun e => items e.2) (fun _ x => x) (fun e _ => e.1) []]
  change ((((sdFold _).filter _).map _).map _).Perm _
  apply (List.perm_ext_iff_of_nodup ?_ hk).mpr
  · intro k
    have := mem_sdFold_genome maps items id (fun g _ => g) hn e he e.1 (fun _ _ h => h) k
    simp only [List.mem_map, List.mem_filter, List.contains_eq_mem, decide_eq_true_eq]
    constructor
    · rintro ⟨n, ⟨en, ⟨hen, hg⟩, rfl⟩, rfl⟩
      obtain ⟨x, hx, hxk, _⟩ := this.1 ⟨en, hen, rfl, hg⟩
      exact ⟨x, hx, hxk⟩
    · rintro ⟨x, hx, hxk⟩
      obtain ⟨en, hen, hek, hg⟩ := this.2 ⟨x, hx, hxk, rfl⟩
      exact ⟨en.1, ⟨en, ⟨hen, hg⟩, rfl⟩, hek⟩
  · rw [List.map_map]
    exact (sdFold_spec _).1.sublist ((List.filter_sublist).map _)

/-- the Hi ↦ {Gn ↦ v} views, restricted to one genome.  Both sides are duplicate-free, so members are compared
    (`mem_sdFold_genome`); a lookup of the genome in an entry finds `v` iff `(genome, v)` is its one member there -/
theorem agg_kv_perm {α γ : Type} (maps : List (Taxon × α)) (items : α → List (Node × γ))
    (hn : (maps.map (·.1)).Nodup) (e : Taxon × α) (he : e ∈ maps)
    (hk : ((items e.2).map (·.1.key)).Nodup) :
    (((maps.foldl (fun d e => (items e.2).foldl (fun d r => sdAppend d r.1 (e.1, r.2)) d) []).filterMap
        fun en => (en.2.lookup e.1).map fun v => (en.1, v)).map fun r => (r.1.key, r.2)).Perm
      ((items e.2).map fun r => (r.1.key, r.2)) := by
  rw [nested_fold maps (fun e => items e.2) (fun _ r => r.1) (fun e r => (e.1, r.2)) []]
  change (((sdFold _).filterMap _).map _).Perm _
  have hR : ((items e.2).map fun r => (r.1.key, r.2)).Nodup := by
    apply nodup_of_map_nodup (·.1)
    rw [List.map_map]; exact hk
  have key : ∀ k v, (∃ en ∈ sdFold (maps.flatMap fun e => (items e.2).map fun r => (r.1, (e.1, r.2))),
        en.1.key = k ∧ (e.1, v) ∈ en.2) ↔ ∃ r ∈ items e.2, r.1.key = k ∧ (e.1, r.2) = (e.1, v) := fun k v =>
    mem_sdFold_genome maps items (·.1) (fun g r => (g, r.2)) hn e he (e.1, v) (fun _ _ h => congrArg Prod.fst h) k
  apply (List.perm_ext_iff_of_nodup ?_ hR).mpr
  · rintro ⟨k, v⟩
    simp only [List.mem_map, List.mem_filterMap, Option.map_eq_some_iff, Prod.mk.injEq]
    constructor
    · rintro ⟨r, ⟨en, hen, v', hl, rfl⟩, rfl, rfl⟩
      obtain ⟨r, hr, hrk, hrv⟩ := (key _ v').1 ⟨en, hen, rfl, mem_of_lookup _ _ _ hl⟩
      exact ⟨r, hr, hrk, (Prod.mk.inj hrv).2⟩
    · rintro ⟨r, hr, rfl, rfl⟩
      obtain ⟨en, hen, hek, hv⟩ := (key r.1.key r.2).2 ⟨r, hr, rfl, rfl⟩
      refine ⟨(en.1, r.2), ⟨en, hen, r.2, ?_, rfl⟩, hek, rfl⟩
      apply lookup_of_mem_unique _ _ _ hv
      intro v' hv'
      obtain ⟨r', hr', hrk', hrv'⟩ := (key _ v').1 ⟨en, hen, rfl, hv'⟩
      rw [← (Prod.mk.inj hrv').2, inj_of_nodup_map _ hk hr' hr (hrk'.trans hek)]
  · apply nodup_of_map_nodup (·.1)
    rw [List.map_map]
    exact (sdFold_spec _).1.sublist (filterMap_keys_sublist _ _)

theorem lateral_maps_nodup (H : Ham) (g1 g2 : Taxon) (ml : LMap) (h : lateral H g1 g2 = .ok ml) :
    (ml.maps.map (·.1)).Nodup := by
  have hne := lateral_ne H g1 g2 ml h
  rw [lateral_eq H g1 g2 hne] at h
  have h' := Except.ok.inj h
  subst h'
  simp only [List.map_map]
  have : ((fun (x : Taxon × HMap) => x.1) ∘ fun g => (g, hogsMap H (mrca2 g1 g2) g)) = id := rfl
  rw [this, List.map_id]
  have h2 : [g1, g2].Nodup := by simp [hne]
  exact h2.sublist List.filter_sublist

/-- **C08**: what the aggregated dictionaries of a lateral comparison report for a compared genome is
    exactly the gained list of its vertical comparison against the common ancestor -/
theorem C08_agg_gained (H : Ham) (g1 g2 : Taxon) (ml : LMap) (h : lateral H g1 g2 = .ok ml)
    (e : Taxon × HMap) (he : e ∈ ml.maps) : ml.gainedIn e.1 = e.2.gain := by
  have hn := lateral_maps_nodup H g1 g2 ml h
  have : ml.aggGained.lookup e.1 = some e.2.gain := by
    apply lookup_of_mem_unique
    · exact List.mem_map.2 ⟨e, he, rfl⟩
    · intro v' hv'
      obtain ⟨e', he', heq⟩ := List.mem_map.1 hv'
      simp only [Prod.mk.injEq] at heq
      have := inj_of_nodup_map _ hn he' he heq.1
      subst this
      exact heq.2.symm
  simp [LMap.gainedIn, this]

theorem lateral_map_eq (H : Ham) (g1 g2 : Taxon) (ml : LMap) (h : lateral H g1 g2 = .ok ml)
    (e : Taxon × HMap) (he : e ∈ ml.maps) : e.2 = hogsMap H ml.anc e.1 :=
  ((C08_lateral H g1 g2 ml h).2.2.2.1 e he).2.2.1

theorem loss_keys_nodup (H : Ham) (hw : H.WFc) (a d : Taxon) :
    ((hogsMap H a d).loss.map Node.key).Nodup := by
  rw [hogsMap_loss]
  have hK : (((H.nodesAt a).map Loc.node).map Node.key).Nodup := by
    rw [List.map_map]
    exact nodesAt_keys_nodup hw a
  exact hK.sublist ((List.filter_sublist).map _)

/-- **C08**: likewise its lost set (as a permutation: the dictionary is keyed by the ancestral gene) -/
theorem C08_agg_lost (H : Ham) (hw : H.WFc) (g1 g2 : Taxon) (ml : LMap) (h : lateral H g1 g2 = .ok ml)
    (e : Taxon × HMap) (he : e ∈ ml.maps) : ((ml.lostIn e.1).map Node.key).Perm (e.2.loss.map Node.key) := by
  have hn := lateral_maps_nodup H g1 g2 ml h
  have hk : (e.2.loss.map Node.key).Nodup := by
    rw [lateral_map_eq H g1 g2 ml h e he]
    exact loss_keys_nodup H hw _ _
  exact agg_lost_perm ml.maps (fun m => m.loss) hn e he hk

/-- **C08**: likewise its retained pairs -/
theorem C08_agg_retained (H : Ham) (_hw : H.WFc) (g1 g2 : Taxon) (ml : LMap) (h : lateral H g1 g2 = .ok ml)
    (e : Taxon × HMap) (he : e ∈ ml.maps) :
    ((ml.retainedIn e.1).map fun r => (r.1.key, r.2.key)).Perm (e.2.retained.map fun r => (r.1.key, r.2.key)) := by
  have hn := lateral_maps_nodup H g1 g2 ml h
  have hk : (e.2.retained.map (·.1.key)).Nodup := by
    rw [lateral_map_eq H g1 g2 ml h e he, hogsMap_retained]
    exact (clusters_keys_nodup _).1
  have := (agg_kv_perm ml.maps (fun m => m.retained) hn e he hk).map (fun p => (p.1, p.2.key))
  unfold LMap.retainedIn LMap.aggRetained
  simpa only [List.map_map, Function.comp_def] using this

/-- **C08**: likewise its duplicated lists -/
theorem C08_agg_duplicated (H : Ham) (_hw : H.WFc) (g1 g2 : Taxon) (ml : LMap) (h : lateral H g1 g2 = .ok ml)
    (e : Taxon × HMap) (he : e ∈ ml.maps) :
    ((ml.duplicatedIn e.1).map fun r => (r.1.key, r.2.map Node.key)).Perm
      (e.2.dupl.map fun r => (r.1.key, r.2.map Node.key)) := by
  have hn := lateral_maps_nodup H g1 g2 ml h
  have hk : (e.2.dupl.map (·.1.key)).Nodup := by
    rw [lateral_map_eq H g1 g2 ml h e he, hogsMap_dupl]
    exact (clusters_keys_nodup _).2
  have := (agg_kv_perm ml.maps (fun m => m.dupl) hn e he hk).map (fun p => (p.1, p.2.map Node.key))
  unfold LMap.duplicatedIn LMap.aggDuplicated
  simpa only [List.map_map, Function.comp_def] using this

/-! ### the JSON tree -/

mutual
/-- `hr`: only at the root does the export write `false` for the events -/
theorem json_read (nm : Naming) (feat : Taxon → Feat) (root : Bool) (p : Taxon) (hr : root = true ↔ p = []) :
    (t : STree) → (profileJson nm feat root p t).read p =
      (STree.taxaFrom p t).map fun t =>
        (t, (feat t).nbr,
          if t = [] then none
          else some ((feat t).retained, (feat t).dupl, (feat t).gain, (feat t).lost, (feat t).duplication))
  | .node n ks => by
    simp only [profileJson, PJson.read, STree.taxaFrom, List.map_cons, json_readL nm feat p 0 ks]
    congr 2
    cases root with
    | true => simp [hr.1 rfl]
    | false =>
      have : ¬ p = [] := fun h => by simpa using hr.2 h
      simp [this]
theorem json_readL (nm : Naming) (feat : Taxon → Feat) (p : Taxon) (i : Nat) :
    (ks : List STree) → readL p i (profileJsonL nm feat p i ks) =
      (STree.taxaFromL p i ks).map fun t =>
        (t, (feat t).nbr,
          if t = [] then none
          else some ((feat t).retained, (feat t).dupl, (feat t).gain, (feat t).lost, (feat t).duplication))
  | [] => by simp [profileJsonL, readL, STree.taxaFromL]
  | k :: ks => by
    simp only [profileJsonL, readL, STree.taxaFromL, List.map_append]
    rw [json_read nm feat false (i :: p) (by simp) k, json_readL nm feat p (i + 1) ks]
end

/-- **C09**: the JSON tree of the HTML export embeds exactly the numbers of the profile: reading it
    back gives, for every taxon of the tree in preorder, the genome size and -- except at the root,
    which carries `false` -- the five event numbers annotated on that node -/
theorem C09_json_embeds_profile (H : Ham) :
    (profileFullJson H).read [] =
      H.tree.allTaxa.map fun t =>
        (t, (profileFullAt H t).nbr,
          if t = [] then none
          else some ((profileFullAt H t).retained, (profileFullAt H t).dupl, (profileFullAt H t).gain,
                     (profileFullAt H t).lost, (profileFullAt H t).duplication)) :=
  json_read H.naming (profileFullAt H) true [] (by simp) H.tree

/-- **C12**: the iHam page carries one family-data record per member gene, in member order -/
theorem C12_famdata (H : Ham) (n : Node) : (famData H n).map (·.id) = n.leaves := by
  unfold famData
  rw [List.map_map]
  refine (List.map_congr_left (g := id) fun g _ => ?_).trans (List.map_id _)
  simp only [Function.comp]
  split <;> rfl

end Pyham
