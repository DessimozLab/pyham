/-
  C20 for filtered loads: a fault inside a SELECTED family is not skipped because a filter is active.
-/
import PyhamModel.Lemmas.FilterLemmas
import PyhamModel.Lemmas.Faults
namespace Pyham

/-- if one of the families kept by the first pass contains (at any depth) a reference to a gene that the projected
    file (`projectInput`, see `C11_loadFiltered`) does not declare, an empty orthologGroup or an empty paralogGroup,
    the filtered load raises -/
theorem C20_filtered_fault_rejected (T : STree) (nm : Naming) (inp : Input) (f : Filter)
    (hog : inp.groups.all isOgWithId = true) (gids hids : List String)
    (hf : filterTops f inp.groups (filterGenes f inp.species, []) = .ok (gids, hids))
    (hfault : faultyL (fun id => ((projectInput inp gids.contains hids).species.flatMap
        (fun s => s.genes.map (·.id))).contains id) (projectInput inp gids.contains hids).groups = true) :
    ∃ err, loadFiltered T nm inp f = .error err := by
  obtain ⟨g', h', heq, hl⟩ := C11_loadFiltered T nm inp f hog
  rw [hf] at heq
  cases heq
  rw [hl]
  exact C20_group_fault_rejected T nm (projectInput inp gids.contains hids) hfault

end Pyham
