/-
  C11, last clause: "each [selected family is] identical in members, levels and duplications to the same family in
  an unfiltered load".  `C11_filtered_is_projection` says the filtered load is the unfiltered load of the projected
  file; `family_local` (Locality.lean) says a family is built from its own group only.  Missing link: the projected
  load runs in an environment that knows fewer genes -- but a group only ever looks up the genes it references.
-/
import PyhamModel.Lemmas.FilterLemmas
import PyhamModel.Lemmas.Locality
import PyhamModel.Lemmas.Declared
import PyhamModel.Lemmas.EnvSim
import PyhamModel.Lemmas.LookupLemmas
namespace Pyham
open Except

/-! ### the loader reads the environment only through tree, naming and the referenced genes -/

theorem elem_env_congr (env env' : Env) (hT : env.T = env'.T) (hn : env.nm = env'.nm) :
    (e : Elem) → (len : Nat) → (hb : HogBuild) → (ps : PS) →
    (∀ id ∈ refsOf e, env.lookupGene id = env'.lookupGene id) →
    elem env len e hb ps = elem env' len e hb ps :=
  fun e len hb ps h => (elem_sim (envSim_refs env env' hT hn) e len hb ps h trivial).1

theorem topElem_env_congr (env env' : Env) (hT : env.T = env'.T) (hn : env.nm = env'.nm)
    (e : Elem) (h : ∀ id ∈ refsOf e, env.lookupGene id = env'.lookupGene id) (tops : List Node) (ps : PS) :
    topElem env none e tops ps = topElem env' none e tops ps :=
  topElem_sim (envSim_refs env env' hT hn) none e tops ps h

/-! ### the genes of the filtered load are the kept genes of the full load -/

theorem declareSpecies_keep (T : STree) (nm : Naming) (keep : String → Bool) : (sp : List Species) →
    (acc accF genes genesF : List GeneRec) →
    declareSpecies T nm (fun _ => true) sp acc = .ok genes →
    declareSpecies T nm keep sp accF = .ok genesF →
    accF = acc.filter (fun g => keep g.id) → genesF = genes.filter (fun g => keep g.id)
  | [], acc, accF, genes, genesF, h, hF, ha => by
    cases h
    cases hF
    exact ha
  | s :: ss, acc, accF, genes, genesF, h, hF, ha => by
    rw [declareSpecies_cons] at h hF
    cases hr : resolveSpecies T nm s.name with
    | error e =>
      rw [hr] at h
      cases h
    | ok p =>
      rw [hr] at h hF
      refine declareSpecies_keep T nm keep ss _ _ genes genesF h hF ?_
      subst ha
      simp [List.filter_append, List.filter_map, Function.comp_def, List.filter_filter]

theorem lookup_filter_key (keep : String → Bool) (id : String) (hk : keep id = true) :
    (l : List (String × Taxon)) → (l.filter (fun p => keep p.1)).lookup id = l.lookup id
  | [] => rfl
  | (k, v) :: l => by
    by_cases hik : id = k
    · subst hik
      simp [hk, List.lookup]
    · have hb : (id == k) = false := by simpa using hik
      by_cases hkk : keep k = true <;> simp [hkk, List.lookup, hb, lookup_filter_key keep id hk l]

theorem lookupGene_keep (T : STree) (nm : Naming) (keep : String → Bool) (genes : List GeneRec) (id : String)
    (hk : keep id = true) :
    Env.lookupGene { T := T, nm := nm, geneTx := (genes.filter fun g => keep g.id).reverse.map fun g => (g.id, g.tx) } id =
      Env.lookupGene { T := T, nm := nm, geneTx := genes.reverse.map fun g => (g.id, g.tx) } id := by
  simp only [Env.lookupGene]
  rw [← lookup_filter_key keep id hk (genes.reverse.map fun g => (g.id, g.tx))]
  congr 1
  simp [List.filter_map, List.filter_reverse, Function.comp_def]

/-! ### what the first pass puts into the gene selection -/

theorem filterTops_kept (f : Filter) (es : List Elem) (h : es.all isOgWithId = true)
    (hnd : (es.map topId).Nodup) (g0 h0 gids hids : List String)
    (heq : filterTops f es (g0, h0) = .ok (gids, hids)) :
    (∀ r ∈ g0, r ∈ gids) ∧ (∀ i ∈ hids, i ∈ h0 ∨ some i ∈ es.map topId) ∧
      (∀ e ∈ es, ∀ i, topId e = some i → i ∈ hids → i ∉ h0 → ∀ r ∈ refsOf e, r ∈ gids) := by
  induction es generalizing g0 h0 with
  | nil =>
    simp only [filterTops, Except.ok.injEq, Prod.mk.injEq] at heq
    obtain ⟨rfl, rfl⟩ := heq
    exact ⟨fun _ h => h, fun _ h => Or.inl h, fun e he => by cases he⟩
  | cons e es ih =>
    simp only [List.all_cons, Bool.and_eq_true] at h
    obtain ⟨he, hes⟩ := h
    obtain ⟨i, og, its, rfl⟩ := eq_og_of_isOgWithId he
    simp only [List.map_cons, List.nodup_cons, topId_og] at hnd
    obtain ⟨hni, hnd'⟩ := hnd
    rw [filterTops_cons_og] at heq
    obtain ⟨a, b, c⟩ := ih hes hnd' _ _ heq
    refine ⟨fun r hr => a r (mem_ite_append.mpr (Or.inl hr)), ?_, ?_⟩
    · intro j hj
      rcases b j hj with hb | hb
      · rcases mem_ite_append.mp hb with hb | ⟨_, hb⟩
        · exact Or.inl hb
        · rw [List.mem_singleton.mp hb]
          exact Or.inr (List.mem_cons_self ..)
      · exact Or.inr (List.mem_cons_of_mem _ hb)
    · intro e' he' j ht hj hn0 r hr
      rcases List.mem_cons.mp he' with rfl | he2
      · -- this family: its id can only have come into `hids` here, so its genes were added
        cases ht
        rw [refsOf] at hr
        rcases b _ hj with hb | hb
        · rcases mem_ite_append.mp hb with hb | ⟨hadd, _⟩
          · exact absurd hb hn0
          · exact a r (mem_ite_append.mpr (Or.inr ⟨hadd, hr⟩))
        · exact absurd hb hni
      · refine c e' he2 j ht hj ?_ r hr
        intro hmem
        rcases mem_ite_append.mp hmem with hm | ⟨_, hm⟩
        · exact hn0 hm
        · rw [List.mem_singleton.mp hm] at ht
          exact hni (List.mem_map.mpr ⟨e', he2, ht⟩)

/-! ### the dictionary of top-level families -/

theorem hidOf_shift (k : Nat) (n : Node) : hidOf (n.shift k) = hidOf n := by
  cases n <;> rfl

theorem elems_hid_of (env : Env) (es : List Elem)
    (h : ∀ e ∈ es, ∀ len hb ps, (elem env len e hb ps).All fun r => r.1.info.hid = hb.info.hid) (len : Nat)
    (hb : HogBuild) (ps : PS) : (elems env len es hb ps).All fun r => r.1.info.hid = hb.info.hid := by
  induction es generalizing hb ps with
  | nil => exact rfl
  | cons e es ih =>
    rw [List.forall_mem_cons] at h
    rw [elems_cons]
    apply (h.1 len hb ps).bind
    intro r hr
    exact (ih h.2 r.1 r.2).mono fun _ h => h.trans hr

theorem elem_hid (env : Env) (e : Elem) (len : Nat) (hb : HogBuild) (ps : PS) :
    (elem env len e hb ps).All fun r => r.1.info.hid = hb.info.hid := by
  induction e using Elem.induct generalizing len hb ps with
  | ref id loft =>
    rw [elem_ref]
    split
    · trivial
    · exact rfl
  | score id v => exact rfl
  | prop n v => exact rfl
  | pg pgid its ih =>
    rw [elem_pg]
    apply (elems_hid_of env its ih len hb _).bind
    intro r hr
    apply All.bind all_true
    intro _ _
    exact hr
  | og hid og its _ =>
    rw [elem_og]
    apply All.bind all_true
    intro r _
    apply All.bind all_true
    intro s _
    exact rfl

theorem elems_hid (env : Env) (es : List Elem) (len : Nat) (hb : HogBuild) (ps : PS) :
    (elems env len es hb ps).All fun r => r.1.info.hid = hb.info.hid :=
  elems_hid_of env es (fun e _ => elem_hid env e) len hb ps

theorem fi_elem_hid (env : Env) : (e : Elem) → (len : Nat) → (hb : HogBuild) → (ps : PS) →
    (hb' : HogBuild) → (ps' : PS) → elem env len e hb ps = .ok (hb', ps') →
    hb'.info.hid = hb.info.hid :=
  fun e len hb ps _ _ h => (elem_hid env e len hb ps).of_eq h

theorem closeOg_family_hid (env : Env) (hb : HogBuild) (ps : PS) :
    (closeOg env true hb ps).All fun r => ∃ x, r.1 = [x] ∧ hidOf x = hb.info.hid := by
  rw [closeOg]
  apply All.bind all_true
  intro lv _
  split
  · trivial
  · apply All.bind all_true
    intro level _
    apply All.bind all_true
    intro st _
    apply All.bind all_true
    intro r _
    exact ⟨_, rfl, rfl⟩

theorem family_hid (env : Env) (i : String) (og : Option String) (its : List Elem) (tops : List Node) (ps : PS) :
    (topElem env none (.og (some i) og its) tops ps).All fun r => ∃ x, r.1 = tops ++ [x] ∧ hidOf x = some i := by
  rw [topElem_og_none]
  apply (elems_hid env its 1 _ _).bind
  intro r hr
  apply (closeOg_family_hid env r.1 r.2).bind
  intro s hs
  obtain ⟨x, hx, hh⟩ := hs
  exact ⟨x, congrArg (tops ++ ·) hx, hh.trans hr⟩

theorem isOg_of_withId (es : List Elem) (h : es.all isOgWithId = true) : es.all isOg = true := by
  rw [List.all_eq_true] at h ⊢
  intro e he
  obtain ⟨i, og, its, rfl⟩ := eq_og_of_isOgWithId (h e he)
  rfl

theorem topElems_hids (env : Env) (es : List Elem) (tops : List Node) (ps : PS)
    (h : topElems env none es [] {} = .ok (tops, ps)) (hog : es.all isOgWithId = true) :
    tops.map hidOf = es.map topId := by
  obtain ⟨hl, hf⟩ := families_local env es tops ps (isOg_of_withId es hog) h
  apply List.ext_getElem (by rw [List.length_map, List.length_map, hl])
  intro j h1 h2
  rw [List.length_map] at h1 h2
  obtain ⟨n, ps', k, hn, hk⟩ := hf j h1 h2
  obtain ⟨i, og, its, he⟩ := eq_og_of_isOgWithId (List.all_eq_true.mp hog _ (List.getElem_mem h2))
  rw [List.getElem_map, List.getElem_map, hk, hidOf_shift, he]
  rw [he] at hn
  obtain ⟨x, hx, hh⟩ := (family_hid env i og its [] {}).of_eq hn
  cases hx
  exact hh

theorem mem_keepFamilies {ids : List String} {es : List Elem} {e : Elem} (h : e ∈ keepFamilies ids es) :
    e ∈ es ∧ ∃ i, topId e = some i ∧ i ∈ ids := by
  simp only [keepFamilies, List.mem_filter] at h
  refine ⟨h.1, ?_⟩
  cases ht : topId e with
  | none =>
    rw [ht] at h
    simp at h
  | some i =>
    rw [ht] at h
    exact ⟨i, rfl, by simpa using h.2⟩

/-- **C11 (identical families)**: every family of a filtered load is, up to the numbering of objects, the family
    the unfiltered load of the same file builds for the same top-level group -/
theorem C11_filtered_family_identical (T : STree) (nm : Naming) (inp : Input) (f : Filter) (H Hf : Ham)
    (hog : inp.groups.all isOgWithId = true)
    (hgenes : (inp.species.flatMap fun s => s.genes.map (·.id)).Nodup)
    (htop : (inp.groups.map topId).Nodup)
    (hfull : load T nm inp = .ok H) (hflt : loadFiltered T nm inp f = .ok Hf) :
    ∀ p ∈ Hf.tops, ∃ p' ∈ H.tops, ∃ (n : Node) (k k' : Nat),
      p.1 = p'.1 ∧ p.2 = n.shift k ∧ p'.2 = n.shift k' := by
  -- `hgenes` is not needed: a lookup of a kept id skips exactly the dropped entries
  have _ := hgenes
  obtain ⟨genes, tops, ps, _, hd, ht, _, hH⟩ := buildHam_ok hfull
  replace hH : H.tops = tops.foldl (fun d n => dictPut d (hidOf n) n) [] := congrArg Ham.tops hH
  simp only [loadFiltered, bind, Except.bind] at hflt
  split at hflt
  · cases hflt
  · rename_i v hv
    obtain ⟨gids, hids⟩ := v
    simp only at hflt
    obtain ⟨genesF, topsF, psF, _, hdF, htF, _, hHf⟩ := buildHam_ok hflt
    replace hHf : Hf.tops = topsF.foldl (fun d n => dictPut d (hidOf n) n) [] := congrArg Ham.tops hHf
    rw [topElems_filter _ hids inp.groups hog] at htF
    have hgF : genesF = genes.filter (fun g => gids.contains g.id) :=
      declareSpecies_keep T nm gids.contains inp.species [] [] genes genesF hd hdF rfl
    subst hgF
    obtain ⟨-, -, hkept⟩ := filterTops_kept f inp.groups hog htop _ _ gids hids hv
    -- the kept families reference only kept genes
    have hcongr := topElems_sim (envSim_refs
      { T := T, nm := nm, geneTx := (genes.filter fun g => gids.contains g.id).reverse.map fun g => (g.id, g.tx) }
      { T := T, nm := nm, geneTx := genes.reverse.map fun g => (g.id, g.tx) } rfl rfl) none
      (keepFamilies hids inp.groups) [] {} (by
        intro e he id hr
        obtain ⟨he1, i, hti, hi⟩ := mem_keepFamilies he
        have hg : id ∈ gids := hkept e he1 i hti hi (by simp) id hr
        exact lookupGene_keep T nm gids.contains genes id (by simpa using hg))
    rw [hcongr] at htF
    have hogK : (keepFamilies hids inp.groups).all isOgWithId = true := by
      rw [List.all_eq_true] at hog ⊢
      intro e he
      exact hog e (mem_keepFamilies he).1
    have hndK : ((keepFamilies hids inp.groups).map topId).Nodup :=
      (List.filter_sublist.map topId).nodup htop
    -- ids are distinct, so both dictionaries list their families in file order
    have hmap := topElems_hids _ _ _ _ ht hog
    have hmapF := topElems_hids _ _ _ _ htF hogK
    rw [foldl_dictPut_fresh hidOf tops [] (by rw [List.map_nil, List.nil_append, hmap]; exact htop)] at hH
    rw [foldl_dictPut_fresh hidOf topsF [] (by rw [List.map_nil, List.nil_append, hmapF]; exact hndK)] at hHf
    intro p hp
    rw [hHf] at hp
    obtain ⟨n, hn, rfl⟩ := List.mem_map.mp hp
    obtain ⟨i, hi, rfl⟩ := List.getElem_of_mem hn
    have hlenF : topsF.length = (keepFamilies hids inp.groups).length := by
      have := congrArg List.length hmapF
      simpa using this
    have hi' : i < (keepFamilies hids inp.groups).length := by omega
    have hmem : (keepFamilies hids inp.groups)[i] ∈ inp.groups :=
      (mem_keepFamilies (List.getElem_mem hi')).1
    obtain ⟨j, hj, hje⟩ := List.getElem_of_mem hmem
    -- the i-th kept family and the j-th family of the full load come from the same group
    obtain ⟨n0, k, k', h1, h2, e1, e2⟩ := C11_family_identical _ _ _ _ _ _ _
      (isOg_of_withId _ hogK) (isOg_of_withId _ hog) htF ht i j hi' hj hje.symm
    refine ⟨(hidOf tops[j], tops[j]), ?_, n0, k, k', ?_, e1, e2⟩
    · rw [hH]
      exact List.mem_map.mpr ⟨tops[j], List.getElem_mem h2, rfl⟩
    · show hidOf topsF[i] = hidOf tops[j]
      rw [e1, e2, hidOf_shift, hidOf_shift]

end Pyham
