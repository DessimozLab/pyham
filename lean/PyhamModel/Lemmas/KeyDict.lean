/-
  Python dictionaries keyed by HOG / gene objects, as association lists keyed by `Node.key`: one update `keyPut`
  behind `d[k] = v` (RETAINED) and `d.setdefault(k, []).append(v)` (DUPLICATE, aggregated views); the fold of the latter.
-/
import PyhamModel.Model.Agg
namespace Pyham

def keyPut {β : Type} (d : List (Node × β)) (k : Node) (f : β → β) (v : β) : List (Node × β) :=
  if d.any (·.1.key == k.key) then d.map fun e => if e.1.key == k.key then (e.1, f e.2) else e
  else d ++ [(k, v)]

theorem retPut_eq (d : List (Node × Node)) (ho hy : Node) : retPut d ho hy = keyPut d ho (fun _ => hy) hy := rfl

theorem sdAppend_eq {β : Type} (d : List (Node × List β)) (k : Node) (v : β) :
    sdAppend d k v = keyPut d k (· ++ [v]) [v] := rfl

theorem dupPut_eq (d : List (Node × List Node)) (ho hy : Node) : dupPut d ho hy = sdAppend d ho hy := rfl

theorem any_key_iff {β : Type} (d : List (Node × β)) (k : Key) :
    d.any (·.1.key == k) = true ↔ k ∈ d.map (·.1.key) := by
  simp only [List.any_eq_true, List.mem_map, beq_iff_eq]

theorem keyPut_of_not_mem {β : Type} {d : List (Node × β)} {k : Node} (f : β → β) (v : β)
    (h : k.key ∉ d.map (·.1.key)) : keyPut d k f v = d ++ [(k, v)] :=
  if_neg fun h' => h ((any_key_iff d k.key).1 h')

theorem keyPut_of_mem {β : Type} {d : List (Node × β)} {k : Node} (f : β → β) (v : β)
    (h : k.key ∈ d.map (·.1.key)) :
    keyPut d k f v = d.map fun e => if e.1.key == k.key then (e.1, f e.2) else e :=
  if_pos ((any_key_iff d k.key).2 h)

theorem upd_fst {β : Type} (k : Key) (f : β → β) (e : Node × β) :
    (if e.1.key == k then (e.1, f e.2) else e).1 = e.1 := by
  split <;> rfl

theorem keyPut_keys {β : Type} (d : List (Node × β)) (k : Node) (f : β → β) (v : β) :
    (keyPut d k f v).map (·.1.key) =
      if k.key ∈ d.map (·.1.key) then d.map (·.1.key) else d.map (·.1.key) ++ [k.key] := by
  by_cases h : k.key ∈ d.map (·.1.key)
  · rw [if_pos h, keyPut_of_mem f v h, List.map_map]
    exact List.map_congr_left fun e _ => congrArg Node.key (upd_fst k.key f e)
  · rw [if_neg h, keyPut_of_not_mem f v h, List.map_append]
    rfl

theorem keyPut_keys_nodup {β : Type} {d : List (Node × β)} (k : Node) (f : β → β) (v : β)
    (h : (d.map (·.1.key)).Nodup) : ((keyPut d k f v).map (·.1.key)).Nodup := by
  rw [keyPut_keys]
  split
  · exact h
  · rename_i hk
    refine List.nodup_append.2 ⟨h, List.pairwise_singleton _ _, ?_⟩
    intro a ha b hb hab
    rw [List.mem_singleton.1 hb] at hab
    exact hk (hab ▸ ha)

theorem mem_keyPut_keys {β : Type} (d : List (Node × β)) (k : Node) (f : β → β) (v : β) (k' : Key) :
    k' ∈ (keyPut d k f v).map (·.1.key) ↔ k' ∈ d.map (·.1.key) ∨ k' = k.key := by
  rw [keyPut_keys]
  split
  · rename_i hk
    exact ⟨Or.inl, fun h => h.elim id fun h => h ▸ hk⟩
  · rw [List.mem_append, List.mem_singleton]

def sdFold {β : Type} (ps : List (Node × β)) : List (Node × List β) :=
  ps.foldl (fun d p => sdAppend d p.1 p.2) []

theorem snoc_induction {α : Type} {P : List α → Prop} (nil : P [])
    (snoc : ∀ l a, P l → P (l ++ [a])) (l : List α) : P l := by
  have : ∀ l : List α, P l.reverse := by
    intro l
    induction l with
    | nil => exact nil
    | cons a l ih => rw [List.reverse_cons]; exact snoc _ a ih
  simpa using this l.reverse

theorem sdFold_snoc {β : Type} (ps : List (Node × β)) (p : Node × β) :
    sdFold (ps ++ [p]) = sdAppend (sdFold ps) p.1 p.2 := by
  simp [sdFold, List.foldl_append]

def valsAt {β : Type} (ps : List (Node × β)) (k : Key) : List β := (ps.filter (·.1.key == k)).map (·.2)

theorem valsAt_snoc {β : Type} (ps : List (Node × β)) (p : Node × β) (k : Key) :
    valsAt (ps ++ [p]) k = valsAt ps k ++ if p.1.key = k then [p.2] else [] := by
  unfold valsAt
  rw [List.filter_append, List.map_append, List.filter_cons, List.filter_nil]
  by_cases h : p.1.key = k
  · rw [if_pos h, if_pos (beq_iff_eq.2 h)]
    rfl
  · rw [if_neg h, if_neg (by simpa using h)]
    rfl

theorem mem_valsAt {β : Type} {ps : List (Node × β)} {k : Key} {v : β} :
    v ∈ valsAt ps k ↔ ∃ p ∈ ps, p.1.key = k ∧ p.2 = v := by
  simp only [valsAt, List.mem_map, List.mem_filter, beq_iff_eq, and_assoc]

/-- the fold groups the pairs by key; the key object is the first one met with that identity -/
theorem sdFold_spec {β : Type} (ps : List (Node × β)) :
    ((sdFold ps).map (·.1.key)).Nodup ∧
    (∀ e ∈ sdFold ps, e.2 = valsAt ps e.1.key ∧ ∃ p ∈ ps, p.1 = e.1) ∧
    (∀ p ∈ ps, p.1.key ∈ (sdFold ps).map (·.1.key)) := by
  induction ps using snoc_induction with
  | nil => exact ⟨List.nodup_nil, fun _ he => absurd he List.not_mem_nil, fun _ hp => absurd hp List.not_mem_nil⟩
  | snoc ps p ih =>
    obtain ⟨h1, h2, h3⟩ := ih
    rw [sdFold_snoc, sdAppend_eq]
    refine ⟨keyPut_keys_nodup _ _ _ h1, ?_, ?_⟩
    · -- old entries: `valsAt` grows exactly under the key of `p`
      have old : ∀ e ∈ sdFold ps, (if e.1.key == p.1.key then (e.1, e.2 ++ [p.2]) else e).2
          = valsAt (ps ++ [p]) e.1.key := by
        intro e he
        rw [valsAt_snoc, ← (h2 e he).1]
        by_cases hk : e.1.key = p.1.key
        · rw [if_pos (beq_iff_eq.2 hk), if_pos hk.symm]
        · rw [if_neg (by simpa using hk), if_neg (fun h => hk h.symm), List.append_nil]
      have src : ∀ e ∈ sdFold ps, ∃ q ∈ ps ++ [p], q.1 = e.1 := fun e he =>
        (h2 e he).2.imp fun q hq => ⟨List.mem_append_left _ hq.1, hq.2⟩
      by_cases hk : p.1.key ∈ (sdFold ps).map (·.1.key)
      · rw [keyPut_of_mem _ _ hk]
        intro e' he'
        obtain ⟨e, he, rfl⟩ := List.mem_map.1 he'
        rw [upd_fst p.1.key (· ++ [p.2]) e]
        exact ⟨old e he, src e he⟩
      · rw [keyPut_of_not_mem _ _ hk]
        intro e he
        rcases List.mem_append.1 he with he | he
        · have := old e he
          rw [if_neg (by simpa using fun h : e.1.key = p.1.key => hk (h ▸ List.mem_map.2 ⟨e, he, rfl⟩))] at this
          exact ⟨this, src e he⟩
        · rw [List.mem_singleton.1 he, valsAt_snoc, if_pos rfl]
          have : valsAt ps p.1.key = [] := by
            rw [List.eq_nil_iff_forall_not_mem]
            intro v hv
            obtain ⟨q, hq, hqk, _⟩ := mem_valsAt.1 hv
            exact hk (hqk ▸ h3 q hq)
          rw [this]
          exact ⟨rfl, p, List.mem_append_right _ (List.mem_singleton.2 rfl), rfl⟩
    · intro q hq
      rw [mem_keyPut_keys]
      rcases List.mem_append.1 hq with hq | hq
      · exact Or.inl (h3 q hq)
      · exact Or.inr (by rw [List.mem_singleton.1 hq])

theorem mem_sdFold {β : Type} (ps : List (Node × β)) (k : Key) (v : β) :
    (∃ e ∈ sdFold ps, e.1.key = k ∧ v ∈ e.2) ↔ ∃ p ∈ ps, p.1.key = k ∧ p.2 = v := by
  obtain ⟨_, h2, h3⟩ := sdFold_spec ps
  constructor
  · rintro ⟨e, he, rfl, hv⟩
    rw [(h2 e he).1] at hv
    exact mem_valsAt.1 hv
  · rintro ⟨p, hp, rfl, rfl⟩
    obtain ⟨e, he, hek⟩ := List.mem_map.1 (h3 p hp)
    refine ⟨e, he, hek, ?_⟩
    rw [(h2 e he).1]
    exact mem_valsAt.2 ⟨p, hp, hek.symm, rfl⟩

theorem sdFold_ne_nil {β : Type} (ps : List (Node × β)) : ∀ e ∈ sdFold ps, e.2 ≠ [] := by
  intro e he h
  obtain ⟨hv, p, hp, hpe⟩ := (sdFold_spec ps).2.1 e he
  have : p.2 ∈ e.2 := by
    rw [hv]
    exact mem_valsAt.2 ⟨p, hp, congrArg Node.key hpe, rfl⟩
  rw [h] at this
  exact nomatch this

theorem append_under_key_flat {β : Type} (k : Key) (v : β) (d : List (Node × List β)) (hn : (d.map (·.1.key)).Nodup) :
    ((d.map fun e => if e.1.key == k then (e.1, e.2 ++ [v]) else e).flatMap (·.2)).Perm
      (d.flatMap (·.2) ++ if k ∈ d.map (·.1.key) then [v] else []) := by
  induction d with
  | nil => exact .refl _
  | cons a d ih =>
    obtain ⟨ha, hn⟩ := List.nodup_cons.1 hn
    have ih := ih hn
    by_cases hk : a.1.key = k
    · rw [if_pos (List.mem_map.2 ⟨a, List.mem_cons_self, hk⟩), List.map_cons, if_pos (beq_iff_eq.2 hk)]
      rw [if_neg (hk ▸ ha), List.append_nil] at ih
      rw [List.flatMap_cons, List.flatMap_cons, List.append_assoc, List.append_assoc]
      exact (List.perm_append_comm.trans (ih.append_right _)).append_left _
    · have : k ∈ (a :: d).map (·.1.key) ↔ k ∈ d.map (·.1.key) := by
        rw [List.map_cons, List.mem_cons]
        exact ⟨fun h => h.elim (fun h => absurd h.symm hk) id, Or.inr⟩
      rw [ite_congr (propext this) (fun _ => rfl) (fun _ => rfl), List.map_cons, if_neg (by simpa using hk)]
      rw [List.flatMap_cons, List.flatMap_cons, List.append_assoc]
      exact ih.append_left _

theorem sdFold_flat {β : Type} (ps : List (Node × β)) :
    ((sdFold ps).flatMap (·.2)).Perm (ps.map (·.2)) := by
  induction ps using snoc_induction with
  | nil => exact .refl _
  | snoc ps p ih =>
    rw [sdFold_snoc, List.map_append]
    refine List.Perm.trans ?_ (ih.append_right _)
    by_cases hk : p.1.key ∈ (sdFold ps).map (·.1.key)
    · rw [sdAppend_eq, keyPut_of_mem _ _ hk]
      have := append_under_key_flat p.1.key p.2 (sdFold ps) (sdFold_spec ps).1
      rwa [if_pos hk] at this
    · rw [sdAppend_eq, keyPut_of_not_mem _ _ hk, List.flatMap_append]
      exact .of_eq (by simp)

end Pyham
