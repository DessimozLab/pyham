/-
  C13 / C14 at the level of whole files: two consistent datasets over the same species tree whose families are
  spellings of the same histories (and which may use different naming modes) load into the same hierarchies,
  family by family, up to sibling order and object numbering.
-/
import PyhamModel.Lemmas.Unique
import PyhamModel.Lemmas.CapstoneWF
import PyhamModel.Lemmas.RoundtripLoaded
namespace Pyham

/-- **C13 / C14 for whole files**: `spell` writes a hierarchy back as a history, so `SameL` of the two says "the same
    hierarchy up to the order of siblings and records and up to numbering" -/
theorem same_histories_same_hierarchies (D D' : Dataset) (hc : D.Consistent) (hc' : D'.Consistent)
    (hT : D.T = D'.T) (hlen : D.fams.length = D'.fams.length)
    (hs : ∀ i (h1 : i < D.fams.length) (h2 : i < D'.fams.length),
        (D.fams[i]).1 = (D'.fams[i]).1 ∧ SameL (D.fams[i]).2 (D'.fams[i]).2) :
    ∃ H H', load D.T D.nm D.file = .ok H ∧ load D'.T D'.nm D'.file = .ok H' ∧
      H.tops.length = H'.tops.length ∧
      ∀ i (h1 : i < H.tops.length) (h2 : i < H'.tops.length),
        SameL (spell false false (H.tops[i]).2) (spell false false (H'.tops[i]).2) := by
  obtain ⟨H, L⟩ := Loaded.of_consistent D hc
  obtain ⟨H', L'⟩ := Loaded.of_consistent D' hc'
  have hn := L.len
  have hn' := L'.len
  refine ⟨H, H', L.eq, L'.eq, by omega, ?_⟩
  intro i h1 h2
  have a1 : i < D.fams.length := by omega
  have a2 : i < D'.fams.length := by omega
  obtain ⟨hq, hsl⟩ := hs i a1 a2
  have hr' := L'.real i h2 a2
  have hw' := L'.wfh _ (List.getElem_mem a2)
  rw [← hq] at hr' hw'
  rw [← hT] at hw'
  exact realises_unique_spellings D.T _ _ _ _ _ hsl (L.wfh _ (List.getElem_mem a1)) hw' (L.real i h1 a1) hr'
    (exportWF_of_wf H L.wf _ (List.getElem_mem h1)).keys (exportWF_of_wf H' L'.wf _ (List.getElem_mem h2)).keys

end Pyham
