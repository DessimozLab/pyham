/-
  C16, last sentence: for every ancestral genome the ancestral clustering maps each of its HOGs to
  pairwise disjoint extant gene sets.
-/
import PyhamModel.Lemmas.Compose
import PyhamModel.Lemmas.NavLemmas
namespace Pyham

theorem aclust_entries (H : Ham) (t : Taxon) (e : Node × List String) :
    e ∈ ancestralClustering H t ↔ ∃ l ∈ H.nodesAt t, l.node.isGene = false ∧ e = (l.node, l.node.leaves) := by
  simp only [ancestralClustering, List.mem_filterMap]
  constructor
  · rintro ⟨l, hl, h⟩
    cases hg : l.node.isGene with
    | true => simp [hg] at h
    | false =>
      simp only [hg, Bool.false_eq_true, if_false, Option.some.injEq] at h
      exact ⟨l, hl, hg, h.symm⟩
  · rintro ⟨l, hl, hg, rfl⟩
    exact ⟨l, hl, by simp [hg]⟩

theorem leaves_locs (n : Node) (anc : List Node) (g : String) (hg : g ∈ n.leaves) :
    ∃ l ∈ locs anc n, l.node.key = .g g := by
  rw [leaves_eq_nodes, List.mem_filterMap] at hg
  obtain ⟨x, hx, hxg⟩ := hg
  rw [← locs_nodes n anc, List.mem_map] at hx
  obtain ⟨l, hl, rfl⟩ := hx
  refine ⟨l, hl, ?_⟩
  cases hn : l.node with
  | gene i t d lo =>
    rw [hn] at hxg
    cases hxg
    rfl
  | hog info t d ks ds =>
    rw [hn] at hxg
    cases hxg

/-- a descendant gene of a located HOG is a located gene having the HOG among its ancestors -/
theorem leaf_located {H : Ham} {l : Loc} (hl : l ∈ H.allLocs) (hng : l.node.isGene = false)
    {g : String} (hg : g ∈ l.node.leaves) :
    ∃ m ∈ H.allLocs, m.node.key = .g g ∧ l.node ∈ m.anc := by
  obtain ⟨m, hm, hk⟩ := leaves_locs l.node l.anc g hg
  rcases mem_allLocs.mp hl with ⟨p, hp, hlp⟩ | ⟨s, hs, rfl⟩
  · refine ⟨m, mem_allLocs.mpr (Or.inl ⟨p, hp, locs_sub p.2 [] l hlp m hm⟩), hk, ?_⟩
    rcases locs_anc_cases l.node l.anc m hm with rfl | hsuf
    · cases hn : l.node with
      | gene => simp [hn, Node.isGene] at hng
      | hog => simp [hn, Node.key] at hk
    · obtain ⟨q, hq⟩ := hsuf
      rw [← hq]
      simp
  · obtain ⟨i, t, rfl⟩ := singletons_gene hs
    cases hng

/-- **C16**: in a well-formed analysis two different HOGs of one ancestral genome have no extant gene
    in common -/
theorem C16_clustering_disjoint (H : Ham) (hw : H.WFc) (t : Taxon) (e1 e2 : Node × List String)
    (h1 : e1 ∈ ancestralClustering H t) (h2 : e2 ∈ ancestralClustering H t) (hne : e1.1.key ≠ e2.1.key)
    (g : String) (hg1 : g ∈ e1.2) : g ∉ e2.2 := by
  intro hg2
  obtain ⟨l1, hl1, hn1, rfl⟩ := (aclust_entries H t e1).mp h1
  obtain ⟨l2, hl2, hn2, rfl⟩ := (aclust_entries H t e2).mp h2
  rw [mem_nodesAt] at hl1 hl2
  -- the common gene is one located node; both HOGs are on its chain at taxon `t`, where a chain has one node
  obtain ⟨m1, hm1, hk1, ha1⟩ := leaf_located hl1.1 hn1 hg1
  obtain ⟨m2, hm2, hk2, ha2⟩ := leaf_located hl2.1 hn2 hg2
  have := key_inj hw hm1 hm2 (hk1.trans hk2.symm)
  subst this
  have hc := allLocs_chain hw hm1
  have := chain_unique_at _ _ hc t l1.node l2.node ha1 ha2 hl1.2 hl2.2
  exact hne (congrArg Node.key this)

end Pyham
