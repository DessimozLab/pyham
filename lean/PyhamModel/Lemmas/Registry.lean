/-
  C04: ancestral genomes list exactly the HOGs placed at their taxon, each once, all reachable.
  Every HOG node the loader creates (for a written group, for a skipped level, for the level of a
  duplication) is registered in its genome exactly once, at its own taxon, and survives into the
  result; a collapsed group is neither registered nor kept.  Holds for ANY successful load.
-/
import PyhamModel.Lemmas.Leaves
namespace Pyham

mutual
/-- what the genomes must list for a subtree: one entry (taxon, identity) per HOG node -/
def Node.regOf : Node → List (Taxon × Key)
  | .gene .. => []
  | .hog info t _ ks _ => (t, Key.h info.uid) :: regOfL ks
def regOfL : List Node → List (Taxon × Key)
  | [] => []
  | k :: ks => k.regOf ++ regOfL ks
end

theorem setDup_regOf (d : Option Nat) (n : Node) : (n.setDup d).regOf = n.regOf := by
  cases n <;> simp [Node.setDup, Node.regOf]

theorem regOfL_append (a b : List Node) : regOfL (a ++ b) = regOfL a ++ regOfL b := by
  induction a with
  | nil => simp [regOfL]
  | cons x xs ih => simp [regOfL, ih]

theorem regOfL_map_setDup (d : Option Nat) (l : List Node) :
    regOfL (l.map (Node.setDup d)) = regOfL l := by
  induction l with
  | nil => rfl
  | cons x xs ih => simp [regOfL, ih, setDup_regOf]

mutual
theorem regOf_eq_atoms : (n : Node) → n.regOf = n.atoms.filterMap Sum.getLeft?
  | .gene .. => rfl
  | .hog _ _ _ ks _ => by
    simp only [Node.regOf, Node.atoms, List.filterMap_cons, Sum.getLeft?_inl, regOfL_eq_atoms ks]
theorem regOfL_eq_atoms : (ns : List Node) → regOfL ns = (atomsL ns).filterMap Sum.getLeft?
  | [] => rfl
  | n :: ns => by
    simp only [regOfL, atomsL, List.filterMap_append, regOf_eq_atoms n, regOfL_eq_atoms ns]
end

theorem filterMap_left_inl {α β} (l : List α) :
    (l.map (Sum.inl : α → α ⊕ β)).filterMap Sum.getLeft? = l := by
  induction l with
  | nil => rfl
  | cons x xs ih => exact congrArg (x :: ·) ih

theorem filterMap_left_inr {α β} (l : List β) :
    (l.map (Sum.inr : β → α ⊕ β)).filterMap Sum.getLeft? = [] := by
  induction l with
  | nil => rfl
  | cons x xs ih => exact ih

/-- the log grows by exactly the HOG nodes that are new among the nodes -/
theorem Grew.reg {ps ps' : PS} {a b : List Node} {r : List String}
    (g : Grew ps ps' (atomsL a ++ r.map .inr) (atomsL b)) :
    (ps'.reg ++ regOfL a).Perm (ps.reg ++ regOfL b) := by
  obtain ⟨_, new, hr, p⟩ := g
  have := p.filterMap Sum.getLeft?
  rw [List.filterMap_append, List.filterMap_append, filterMap_left_inr, filterMap_left_inl,
    List.append_nil, ← regOfL_eq_atoms, ← regOfL_eq_atoms] at this
  rw [hr, List.append_assoc]
  exact (List.perm_append_comm.trans this.symm).append_left _

theorem modDup_reg (ps : PS) (d : Nat) (f : DupBuild → DupBuild) : (ps.modDup d f).reg = ps.reg := rfl

theorem newDup_reg (ps : PS) (pgid : Option String) : (newDup ps pgid).2.reg = ps.reg := rfl

theorem elem_reg (env : Env) (len : Nat) (e : Elem) (hb : HogBuild) (ps : PS) (hb' : HogBuild) (ps' : PS)
    (h : elem env len e hb ps = .ok (hb', ps')) (inv : LInv hb ps) :
    (ps'.reg ++ regOfL hb.kids).Perm (ps.reg ++ regOfL hb'.kids) :=
  (elem_spec env e h inv).1.reg

theorem topElem_reg_aux (env : Env) (flt : HogFilter) : (e : Elem) → (tops : List Node) → (ps : PS) →
    (tops' : List Node) → (ps' : PS) → topElem env flt e tops ps = .ok (tops', ps') →
    HogKeysNodup tops → UidsBelow ps.next tops →
    (ps'.reg ++ regOfL tops).Perm (ps.reg ++ regOfL tops') ∧ HogKeysNodup tops' ∧
      UidsBelow ps'.next tops' ∧ ps.next ≤ ps'.next
  | e, tops, ps, tops', ps', h, hnd, hfresh => by
    obtain ⟨⟨refs, _, g⟩, h2, h3⟩ := topElem_spec env flt e h hnd hfresh
    exact ⟨g.reg, h2, h3, g.next⟩

/-- **C04** (registration part): after any successful load, filtered or not, the registration log is,
    up to order, the list of all HOG nodes of the families with their taxa -/
theorem C04_registration_exact (env : Env) (flt : HogFilter) (es : List Elem) (tops : List Node) (ps : PS)
    (h : topElems env flt es [] {} = .ok (tops, ps)) :
    ps.reg.Perm (regOfL tops) := by
  obtain ⟨⟨refs, _, g⟩, _⟩ := topElems_spec env flt es h List.nodup_nil (fun _ hk => nomatch hk)
  simpa [regOfL] using g.reg

end Pyham
