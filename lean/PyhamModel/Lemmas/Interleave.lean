/-
  C17 "... repeated and interleaved, on one or on several analyses": two analyses alive at once, every call addressed to
  one of them, in any interleaving.
-/
import PyhamModel.Lemmas.SessionLemmas
namespace Pyham

/-- a session on two analyses: `(false, op)` calls the first, `(true, op)` the second -/
def run2 (s1 s2 : SState) : List (Bool × Op) → (SState × SState) × List Out
  | [] => ((s1, s2), [])
  | (false, op) :: r =>
    let q := step s1 op
    let rs := run2 q.1 s2 r
    (rs.1, q.2 :: rs.2)
  | (true, op) :: r =>
    let q := step s2 op
    let rs := run2 s1 q.1 r
    (rs.1, q.2 :: rs.2)

theorem run2_spec (H1 H2 : Ham) (ops : List (Bool × Op)) : ∀ (s1 s2 : SState), SInv H1 s1 → SInv H2 s2 →
    (run2 s1 s2 ops).2 = ops.map (fun p => answer (if p.1 then H2 else H1) p.2) ∧
    SInv H1 (run2 s1 s2 ops).1.1 ∧ SInv H2 (run2 s1 s2 ops).1.2 := by
  induction ops with
  | nil => exact fun s1 s2 i1 i2 => ⟨rfl, i1, i2⟩
  | cons p ops ih =>
    intro s1 s2 i1 i2
    obtain ⟨b, op⟩ := p
    cases b with
    | false =>
      have h1 := step_spec H1 s1 i1 op
      have h2 := ih (step s1 op).1 s2 h1.2 i2
      exact ⟨List.cons_eq_cons.2 ⟨h1.1, h2.1⟩, h2.2⟩
    | true =>
      have h1 := step_spec H2 s2 i2 op
      have h2 := ih s1 (step s2 op).1 i1 h1.2
      exact ⟨List.cons_eq_cons.2 ⟨h1.1, h2.1⟩, h2.2⟩

/-- **C17, several analyses**: whatever the interleaving of calls on two analyses (built from the same inputs or
    not), both are unchanged at the end and every call returned what the same call returns on a freshly loaded copy
    of the analysis it was addressed to -/
theorem C17_interleaved (H1 H2 : Ham) (ops : List (Bool × Op)) :
    (run2 (SState.init H1) (SState.init H2) ops).2 = ops.map (fun p => answer (if p.1 then H2 else H1) p.2) ∧
    (run2 (SState.init H1) (SState.init H2) ops).1.1.H = H1 ∧
    (run2 (SState.init H1) (SState.init H2) ops).1.2.H = H2 := by
  have h := run2_spec H1 H2 ops _ _ (SInv.init H1) (SInv.init H2)
  exact ⟨h.1, h.2.1.same, h.2.2.same⟩

end Pyham
