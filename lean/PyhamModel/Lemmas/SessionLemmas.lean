/-
  C17: analyses are read-only; results do not depend on call history; caches are never observable.
-/
import PyhamModel.Model.Session
import PyhamModel.Lemmas.Lateral
namespace Pyham

/-- the invariant of a session: every cache entry holds what the pure function returns -/
structure SInv (H : Ham) (s : SState) : Prop where
  same : s.H = H
  cache : ∀ e ∈ s.cache, vertical H e.1.1 e.1.2 = .ok e.2
  vis : ∀ e ∈ s.vis, ∃ n, findNode H e.1 = some n ∧ e.2 = ihamExport H n
  clust : ∀ e ∈ s.clust, e.2 = ancestralClustering H e.1

namespace SInv

theorem init (H : Ham) : SInv H (SState.init H) :=
  ⟨rfl, fun _ h => (List.not_mem_nil h).elim, fun _ h => (List.not_mem_nil h).elim,
    fun _ h => (List.not_mem_nil h).elim⟩

theorem touched (H : Ham) (s : SState) (inv : SInv H s) (l : List Taxon) :
    SInv H { s with touched := l } :=
  ⟨inv.same, inv.cache, inv.vis, inv.clust⟩

end SInv

private theorem find?_hit {α} {P : α → Prop} {l : List α} (h : ∀ e ∈ l, P e) {q : α → Bool} {e : α}
    (hf : l.find? q = some e) : q e = true ∧ P e :=
  ⟨List.find?_some hf, h e (List.mem_of_find?_eq_some hf)⟩

/-- a cached map is returned exactly when the pure comparison would return it -/
theorem getHogMap_spec (H : Ham) (s : SState) (inv : SInv H s) (g1 g2 : Taxon) :
    (getHogMap s g1 g2).2 = vertical H g1 g2 ∧ SInv H (getHogMap s g1 g2).1 := by
  have hs := inv.same
  subst hs
  unfold getHogMap
  split
  next e hf =>
    refine ⟨?_, inv⟩
    obtain ⟨hp, hc⟩ := find?_hit inv.cache hf
    -- the entry was stored under either order of the pair, and the comparison is symmetric
    rcases Bool.or_eq_true_iff.mp hp with hp | hp
    · exact (eq_of_beq hp ▸ hc).symm
    · exact (eq_of_beq hp ▸ hc).symm.trans (C08_vertical_symm s.H g2 g1)
  next =>
    cases hv : vertical s.H g1 g2 with
    | error e => exact ⟨rfl, inv⟩
    | ok m =>
      exact ⟨rfl, rfl, List.forall_mem_append.2 ⟨inv.cache, List.forall_mem_singleton.2 hv⟩, inv.vis, inv.clust⟩

-- From here on `getHogMap` is used through `getHogMap_spec` only.  Were it reducible, unfolding a call of
-- `profileFullS` would unfold it too, and the goal would not contain the `getHogMap s t u` that the lemma rewrites.
attribute [local irreducible] getHogMap

/-- the tree profile does not depend on what is cached -/
theorem profileFullS_spec (H : Ham) (ts : List Taxon) : ∀ (s s' : SState), SInv H s → SInv H s' →
    (profileFullS s ts).2 = (profileFullS s' ts).2 ∧ SInv H (profileFullS s ts).1 := by
  induction ts with
  | nil => exact fun s s' inv _ => ⟨rfl, inv⟩
  | cons t ts ih =>
    intro s s' inv inv'
    have hs := inv.same.trans inv'.same.symm
    -- `Taxon.up` is decided by the shape of the taxon
    cases t with
    | nil =>
      have h := ih s s' inv inv'
      refine ⟨List.cons_eq_cons.2 ⟨?_, h.1⟩, h.2⟩
      rw [hs]
    | cons a u =>
      have g := getHogMap_spec H s inv (a :: u) u
      have g' := getHogMap_spec H s' inv' (a :: u) u
      have h := ih _ _ g.2 g'.2
      refine ⟨List.cons_eq_cons.2 ⟨?_, h.1⟩, h.2⟩
      rw [g.1.trans g'.1.symm, hs]

/-- one call: the analysis is unchanged, the invariant is kept, and the result is what the same call
    returns on a freshly loaded analysis -/
theorem step_spec (H : Ham) (s : SState) (inv : SInv H s) (op : Op) :
    (step s op).2 = answer H op ∧ SInv H (step s op).1 := by
  have hs := inv.same
  subst hs
  cases op with
  | vertical g1 g2 =>
    have h := getHogMap_spec _ s inv g1 g2
    have h0 := getHogMap_spec _ _ (SInv.init s.H) g1 g2
    exact ⟨congrArg Out.hmap (h.1.trans h0.1.symm), h.2⟩
  | lateral g1 g2 =>
    dsimp only [answer, step, SState.init]
    cases lateral s.H g1 g2 with
    | error e => exact ⟨rfl, inv⟩
    | ok m => exact ⟨rfl, SInv.touched _ s inv _⟩
  | profileFull =>
    have h := profileFullS_spec _ s.H.tree.allTaxa s _ inv (SInv.init s.H)
    exact ⟨congrArg (fun r => Out.feats (.ok r)) h.1, SInv.touched _ _ h.2 _⟩
  | profileHog k | descGenes k =>
    dsimp only [answer, step, SState.init]
    cases findNode s.H k <;> exact ⟨rfl, inv⟩
  | iham k =>
    dsimp only [answer, step, SState.init, List.find?_nil]
    split
    next e hf =>
      obtain ⟨hp, n, hn, he⟩ := find?_hit inv.vis hf
      rw [← eq_of_beq hp, hn]
      exact ⟨congrArg (fun x => Out.export (.ok x)) he, inv⟩
    next =>
      cases hn : findNode s.H k with
      | none => exact ⟨rfl, inv⟩
      | some n =>
        exact ⟨rfl, rfl, inv.cache,
          List.forall_mem_append.2 ⟨inv.vis, List.forall_mem_singleton.2 ⟨n, hn, rfl⟩⟩, inv.clust⟩
  | clustering t =>
    dsimp only [answer, step, SState.init, List.find?_nil]
    split
    next e hf =>
      obtain ⟨hp, he⟩ := find?_hit inv.clust hf
      rw [← eq_of_beq hp]
      exact ⟨congrArg Out.clust he, inv⟩
    next =>
      exact ⟨rfl, rfl, inv.cache, inv.vis,
        List.forall_mem_append.2 ⟨inv.clust, List.forall_mem_singleton.2 rfl⟩⟩
  | geneById id => exact ⟨rfl, inv⟩

/-- C17 from any state that satisfies `SInv`, not only `SState.init H`: the induction needs the invariant at every
    intermediate state -/
theorem run_spec (H : Ham) (ops : List Op) : ∀ (s : SState), SInv H s →
    (run s ops).2 = ops.map (answer H) ∧ SInv H (run s ops).1 := by
  induction ops with
  | nil => exact fun s inv => ⟨rfl, inv⟩
  | cons op ops ih =>
    intro s inv
    have h1 := step_spec H s inv op
    have h2 := ih (step s op).1 h1.2
    exact ⟨List.cons_eq_cons.2 ⟨h1.1, h2.1⟩, h2.2⟩

/-- **C17**: for every finite sequence of calls, the analysis (families, levels, duplications, gene
    content of every genome: all of `Ham`) is unchanged at the end, and every call returned what the
    same call returns on a freshly loaded analysis -/
theorem C17_history_independent (H : Ham) (ops : List Op) :
    (run (SState.init H) ops).1.H = H ∧ (run (SState.init H) ops).2 = ops.map (answer H) := by
  have h := run_spec H ops _ (SInv.init H)
  exact ⟨h.2.same, h.1⟩

/-- `C17_history_independent` for each of two sessions on the loaded analysis (interleaved calls on two analyses:
    `C17_interleaved`) -/
theorem C17_two_sessions (H : Ham) (ops1 ops2 : List Op) :
    (run (SState.init H) ops1).2 = ops1.map (answer H) ∧ (run (SState.init H) ops2).2 = ops2.map (answer H) :=
  ⟨(C17_history_independent H ops1).2, (C17_history_independent H ops2).2⟩

end Pyham
