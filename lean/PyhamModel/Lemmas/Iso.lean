/-
  Comparisons see nothing but the located-member structure.

  Two analyses `H`, `H'` are related by `φ : Node → Node` (`LocIso`) when the located members of `H'` are the
  images of those of `H` -- whatever the ORDER in which families, children and duplication records are stored and
  whatever the NUMBERING of objects -- and `φ` keeps taxon, "arose by duplication" and distinctness of identities.
  Then every cluster of every vertical comparison of `H'` is the image of the corresponding cluster of `H`.
  This is the model-level content of "... never change any comparison result" (C13 / C14 / C11): the comparison
  algorithm does not look at sibling order, file order, object numbers, ids or annotations.
-/
import PyhamModel.Lemmas.Compose
import PyhamModel.Lemmas.Meaning
import PyhamModel.Lemmas.Locality
namespace Pyham

def Loc.map (φ : Node → Node) (l : Loc) : Loc := ⟨φ l.node, l.anc.map φ⟩

/-- a node occurs in the analysis: as a located member or on the parent chain of one -/
def Ham.occ (H : Ham) (n : Node) : Prop := ∃ l ∈ H.allLocs, n = l.node ∨ n ∈ l.anc

structure LocIso (H H' : Ham) (φ : Node → Node) : Prop where
  locs : ∀ l', l' ∈ H'.allLocs ↔ ∃ l ∈ H.allLocs, l' = l.map φ
  tx : ∀ n, (φ n).tx = n.tx
  flag : ∀ n, (φ n).dup.isSome = n.dup.isSome
  keys : ∀ n1 n2, H.occ n1 → H.occ n2 → ((φ n1).key = (φ n2).key ↔ n1.key = n2.key)

theorem searchUp_map (φ : Node → Node) (htx : ∀ n, (φ n).tx = n.tx) (hfl : ∀ n, (φ n).dup.isSome = n.dup.isSome)
    (a : Taxon) (L : List Node) (f : Bool) :
    searchUp a f (L.map φ) = ((searchUp a f L).1.map φ, (searchUp a f L).2) := by
  induction L generalizing f with
  | nil => simp [searchUp]
  | cons x xs ih =>
    simp only [List.map_cons, searchUp, htx, hfl]
    split
    · simp
    · exact ih _

theorem search_map {H H' : Ham} {φ : Node → Node} (h : LocIso H H' φ) (a : Taxon) (l : Loc) :
    search a (l.map φ) = ((search a l).1.map φ, (search a l).2) := by
  unfold search Loc.map
  simp only [h.flag]
  exact searchUp_map φ h.tx h.flag a l.anc _

theorem nodesAt_map {H H' : Ham} {φ : Node → Node} (h : LocIso H H' φ) (t : Taxon) (l' : Loc) :
    l' ∈ H'.nodesAt t ↔ ∃ l ∈ H.nodesAt t, l' = l.map φ := by
  simp only [Ham.nodesAt, List.mem_filter, beq_iff_eq]
  constructor
  · rintro ⟨hl, ht⟩
    obtain ⟨l, hl0, rfl⟩ := (h.locs l').1 hl
    refine ⟨l, ⟨hl0, ?_⟩, rfl⟩
    simpa [Loc.map, h.tx] using ht
  · rintro ⟨l, ⟨hl0, ht⟩, rfl⟩
    refine ⟨(h.locs _).2 ⟨l, hl0, rfl⟩, ?_⟩
    simpa [Loc.map, h.tx] using ht

theorem iso_gain {H H' : Ham} {φ : Node → Node} (h : LocIso H H' φ) (a d : Taxon) (n' : Node) :
    n' ∈ (hogsMap H' a d).gain ↔ ∃ n ∈ (hogsMap H a d).gain, n' = φ n := by
  rw [C06_gained_iff]
  constructor
  · rintro ⟨r', hr', rfl, hno⟩
    obtain ⟨r, hr, rfl⟩ := (nodesAt_map h d r').1 hr'
    refine ⟨r.node, (C06_gained_iff H a d r.node).2 ⟨r, hr, rfl, ?_⟩, rfl⟩
    intro y hy hya
    exact hno (φ y) (List.mem_map.2 ⟨y, hy, rfl⟩) (by rw [h.tx]; exact hya)
  · rintro ⟨n, hn, rfl⟩
    obtain ⟨r, hr, rfl, hno⟩ := (C06_gained_iff H a d n).1 hn
    refine ⟨r.map φ, (nodesAt_map h d _).2 ⟨r, hr, rfl⟩, rfl, ?_⟩
    intro y' hy'
    obtain ⟨y, hy, rfl⟩ := List.mem_map.1 hy'
    rw [h.tx]
    exact hno y hy

theorem search_some_mem_anc {a : Taxon} {r : Loc} {x : Node} {f : Bool} (hs : search a r = (some x, f)) : x ∈ r.anc := by
  obtain ⟨pre, post, hL, _⟩ := (search_some_iff a r x f).1 hs
  rw [hL]
  exact List.mem_append_right _ List.mem_cons_self

def mapEntry (φ : Node → Node) (e : UpEntry) : UpEntry := (φ e.1, e.2.1.map φ, e.2.2)

theorem mem_upOf_map {H H' : Ham} {φ : Node → Node} (h : LocIso H H' φ) (a d : Taxon) (e' : UpEntry) :
    e' ∈ upOf H' a d ↔ ∃ e ∈ upOf H a d, e' = mapEntry φ e := by
  unfold upOf
  simp only [List.mem_map]
  constructor
  · rintro ⟨r', hr', rfl⟩
    obtain ⟨r, hr, rfl⟩ := (nodesAt_map h d r').1 hr'
    refine ⟨_, ⟨r, hr, rfl⟩, ?_⟩
    rw [search_map h a r]
    rfl
  · rintro ⟨_, ⟨r, hr, rfl⟩, rfl⟩
    refine ⟨r.map φ, (nodesAt_map h d _).2 ⟨r, hr, rfl⟩, ?_⟩
    rw [search_map h a r]
    rfl

/-- the members of a genome of the image analysis that are reported under some ancestor are the images of such
    members, reported under the image of the ancestor with the same flag -/
theorem reported_map {H H' : Ham} {φ : Node → Node} (h : LocIso H H' φ) (a d : Taxon) (n' x' : Node) (f : Bool) :
    (∃ r' ∈ H'.nodesAt d, r'.node = n' ∧ search a r' = (some x', f)) ↔
      ∃ r ∈ H.nodesAt d, ∃ x, search a r = (some x, f) ∧ n' = φ r.node ∧ x' = φ x := by
  rw [← mem_upOf H' a d n' (some x') f, mem_upOf_map h]
  constructor
  · rintro ⟨⟨n, o, f0⟩, he, heq⟩
    obtain ⟨r, hr, rfl, hs⟩ := (mem_upOf H a d n o f0).1 he
    cases o with
    | none => cases heq
    | some x =>
      cases heq
      exact ⟨r, hr, x, hs, rfl, rfl⟩
  · rintro ⟨r, hr, x, hs, rfl, rfl⟩
    exact ⟨(r.node, some x, f), (mem_upOf H a d _ _ _).2 ⟨r, hr, rfl, hs⟩, rfl⟩

theorem upOf_occ {H : Ham} {a d : Taxon} {e : UpEntry} (he : e ∈ upOf H a d) {x : Node} (hx : e.2.1 = some x) :
    H.occ x := by
  obtain ⟨r, hr, rfl⟩ := List.mem_map.1 he
  exact ⟨r, (List.mem_filter.1 hr).1, Or.inr (search_some_mem_anc (Prod.ext hx rfl))⟩

theorem seen_map {H H' : Ham} {φ : Node → Node} (h : LocIso H H' φ) (a d : Taxon) {l : Loc} (hl : l ∈ H.allLocs) :
    (clustersOf (upOf H' a d)).seen.contains (φ l.node).key = (clustersOf (upOf H a d)).seen.contains l.node.key := by
  have hocc : H.occ l.node := ⟨l, hl, Or.inl rfl⟩
  rw [Bool.eq_iff_iff, List.contains_iff_mem, List.contains_iff_mem, clusters_seen, clusters_seen]
  simp only [List.mem_filterMap, Option.map_eq_some_iff]
  constructor
  · rintro ⟨e', he', x', hx', hk⟩
    obtain ⟨e, he, rfl⟩ := (mem_upOf_map h a d e').1 he'
    obtain ⟨x, hx, rfl⟩ := Option.map_eq_some_iff.1 hx'
    exact ⟨e, he, x, hx, (h.keys x l.node (upOf_occ he hx) hocc).1 hk⟩
  · rintro ⟨e, he, x, hx, hk⟩
    refine ⟨mapEntry φ e, (mem_upOf_map h a d _).2 ⟨e, he, rfl⟩, φ x, ?_,
      (h.keys x l.node (upOf_occ he hx) hocc).2 hk⟩
    exact Option.map_eq_some_iff.2 ⟨x, hx, rfl⟩

theorem iso_retained {H H' : Ham} {φ : Node → Node} (h : LocIso H H' φ) (hw : H.WFc) (hw' : H'.WFc) (a d : Taxon)
    (p' : Node × Node) :
    p' ∈ (hogsMap H' a d).retained ↔ ∃ p ∈ (hogsMap H a d).retained, p' = (φ p.1, φ p.2) := by
  obtain ⟨x', n'⟩ := p'
  rw [C06_retained_iff H' hw' a d x' n', reported_map h a d n' x' false]
  constructor
  · rintro ⟨r, hr, x, hs, rfl, rfl⟩
    exact ⟨(x, r.node), (C06_retained_iff H hw a d x r.node).2 ⟨r, hr, rfl, hs⟩, rfl⟩
  · rintro ⟨⟨x, n⟩, hp, he⟩
    obtain ⟨r, hr, rfl, hs⟩ := (C06_retained_iff H hw a d x n).1 hp
    cases he
    exact ⟨r, hr, x, hs, rfl, rfl⟩

/-- DUPLICATE of the image analysis = image of DUPLICATE (member-wise; the ancestral gene is named by an occurring
    node `x` carrying its identity) -/
theorem iso_duplicated {H H' : Ham} {φ : Node → Node} (h : LocIso H H' φ) (a d : Taxon) (k' : Key) (n' : Node) :
    (∃ e' ∈ (hogsMap H' a d).dupl, e'.1.key = k' ∧ n' ∈ e'.2) ↔
      ∃ x n, H.occ x ∧ (∃ e ∈ (hogsMap H a d).dupl, e.1.key = x.key ∧ n ∈ e.2) ∧ k' = (φ x).key ∧ n' = φ n := by
  rw [C06_duplicated_iff]
  constructor
  · rintro ⟨r', hr', rfl, x', hs, rfl⟩
    obtain ⟨r, hr, x, hsx, hn, rfl⟩ := (reported_map h a d _ x' true).1 ⟨r', hr', rfl, hs⟩
    exact ⟨x, r.node, ⟨r, (List.mem_filter.1 hr).1, Or.inr (search_some_mem_anc hsx)⟩,
      (C06_duplicated_iff H a d x.key r.node).2 ⟨r, hr, rfl, x, hsx, rfl⟩, rfl, hn⟩
  · rintro ⟨x, n, hox, hm, rfl, rfl⟩
    obtain ⟨r, hr, rfl, x0, hs, hk⟩ := (C06_duplicated_iff H a d x.key n).1 hm
    obtain ⟨r', hr', hn', hs'⟩ := (reported_map h a d (φ r.node) (φ x0) true).2 ⟨r, hr, x0, hs, rfl, rfl⟩
    exact ⟨r', hr', hn', φ x0, hs',
      (h.keys x0 x ⟨r, (List.mem_filter.1 hr).1, Or.inr (search_some_mem_anc hs)⟩ hox).2 hk⟩

theorem iso_loss {H H' : Ham} {φ : Node → Node} (h : LocIso H H' φ) (_hw : H.WFc) (_hw' : H'.WFc) (a d : Taxon)
    (x' : Node) :
    x' ∈ (hogsMap H' a d).loss ↔ ∃ x ∈ (hogsMap H a d).loss, x' = φ x := by
  rw [hogsMap_loss]
  simp only [hogsMap_loss, List.mem_filter, List.mem_map]
  constructor
  · rintro ⟨⟨l', hl', rfl⟩, hs⟩
    obtain ⟨l, hl, rfl⟩ := (nodesAt_map h a l').1 hl'
    refine ⟨l.node, ⟨⟨l, hl, rfl⟩, ?_⟩, rfl⟩
    rw [← seen_map h a d (List.mem_filter.1 hl).1]
    exact hs
  · rintro ⟨_, ⟨⟨l, hl, rfl⟩, hs⟩, rfl⟩
    refine ⟨⟨l.map φ, (nodesAt_map h a _).2 ⟨l, hl, rfl⟩, rfl⟩, ?_⟩
    rw [seen_map h a d (List.mem_filter.1 hl).1]
    exact hs

theorem Loc.map_id (l : Loc) : l.map id = l := by
  cases l
  simp [Loc.map]

theorem mem_map_id_iff {L : List Loc} {l' : Loc} : (∃ l ∈ L, l' = l.map id) ↔ l' ∈ L := by
  constructor
  · rintro ⟨l, hl, rfl⟩
    rw [Loc.map_id]
    exact hl
  · intro h
    exact ⟨l', h, (Loc.map_id l').symm⟩

/-- the identity is an isomorphism: the hypothesis is satisfiable (non-vacuity) -/
theorem LocIso.refl (H : Ham) : LocIso H H id where
  locs := fun _ => mem_map_id_iff.symm
  tx := fun _ => rfl
  flag := fun _ => rfl
  keys := fun _ _ _ _ => Iff.rfl

theorem singletons_congr {H H' : Ham} (hg : H'.genes = H.genes)
    (hl : ∀ g, g ∈ H'.tops.flatMap (fun p => p.2.leaves) ↔ g ∈ H.tops.flatMap (fun p => p.2.leaves)) :
    H'.singletons = H.singletons := by
  unfold Ham.singletons
  rw [hg]
  refine congrArg (List.map _) (List.filter_congr fun g _ => congrArg (!·) ?_)
  rw [Bool.eq_iff_iff, List.contains_iff_mem, List.contains_iff_mem]
  exact hl g.id

/-- **the order of the families does not matter**: an analysis whose top-level families are stored in another order
    (a file with its groups re-ordered, C14) is isomorphic through the identity -/
theorem LocIso.of_tops_perm (H H' : Ham) (hp : H'.tops.Perm H.tops) (hg : H'.genes = H.genes) : LocIso H H' id where
  locs := by
    intro l'
    have hs : H'.singletons = H.singletons := singletons_congr hg fun g => (hp.flatMap_right _).mem_iff
    have hm : l' ∈ H'.allLocs ↔ l' ∈ H.allLocs := by
      unfold Ham.allLocs
      rw [hs, List.mem_append, List.mem_append, (hp.flatMap_right _).mem_iff]
    exact hm.trans mem_map_id_iff.symm
  tx := fun _ => rfl
  flag := fun _ => rfl
  keys := fun _ _ _ _ => Iff.rfl

/-! ### rewriting every family

  Renumbering the objects and re-ordering the children of every HOG both replace each family `top` by `φ top`, where
  the located members of `φ top` are, up to order, the images of those of `top`. -/

/-- every family rewritten by `φ`; `Ham.renumber` and `Ham.reorder` below are instances by `rfl` -/
def Ham.mapTops (H : Ham) (φ : Node → Node) : Ham := { H with tops := H.tops.map fun p => (p.1, φ p.2) }

theorem flatMap_perm {α β} (f g : α → List β) (l : List α) (h : ∀ a ∈ l, (f a).Perm (g a)) :
    (l.flatMap f).Perm (l.flatMap g) := by
  induction l with
  | nil => exact List.Perm.refl _
  | cons a l ih =>
    rw [List.flatMap_cons, List.flatMap_cons]
    exact (h a List.mem_cons_self).append (ih fun b hb => h b (List.mem_cons_of_mem _ hb))

theorem allLocs_mapTops (H : Ham) (φ : Node → Node)
    (hlocs : ∀ n, (locs [] (φ n)).Perm ((locs [] n).map (Loc.map φ)))
    (hleaves : ∀ n, (φ n).leaves.Perm n.leaves)
    (hgene : ∀ i t, φ (.gene i t none none) = .gene i t none none) :
    (H.mapTops φ).allLocs.Perm (H.allLocs.map (Loc.map φ)) := by
  have hs : (H.mapTops φ).singletons = H.singletons := by
    refine singletons_congr rfl fun g => ?_
    unfold Ham.mapTops
    rw [List.flatMap_map]
    exact (flatMap_perm _ _ H.tops fun p _ => hleaves p.2).mem_iff
  unfold Ham.allLocs
  rw [hs, List.map_append, List.map_flatMap, List.map_map]
  refine List.Perm.append ?_ (List.Perm.of_eq (List.map_congr_left fun g hg => ?_))
  · unfold Ham.mapTops
    rw [List.flatMap_map]
    exact flatMap_perm _ _ H.tops fun p _ => hlocs p.2
  · obtain ⟨r, _, rfl⟩ := List.mem_map.1 hg
    exact congrArg (Loc.mk · []) (hgene r.id r.tx).symm

theorem LocIso.of_mapTops (H : Ham) (φ : Node → Node)
    (hlocs : ∀ n, (Pyham.locs [] (φ n)).Perm ((Pyham.locs [] n).map (Loc.map φ)))
    (hleaves : ∀ n, (φ n).leaves.Perm n.leaves)
    (hgene : ∀ i t, φ (.gene i t none none) = .gene i t none none)
    (htx : ∀ n, (φ n).tx = n.tx) (hflag : ∀ n, (φ n).dup.isSome = n.dup.isSome)
    (hkeys : ∀ n1 n2, (φ n1).key = (φ n2).key ↔ n1.key = n2.key) : LocIso H (H.mapTops φ) φ where
  locs := fun l' => by
    rw [(allLocs_mapTops H φ hlocs hleaves hgene).mem_iff, List.mem_map]
    exact exists_congr fun l => and_congr_right fun _ => eq_comm
  tx := htx
  flag := hflag
  keys := fun n1 n2 _ _ => hkeys n1 n2

mutual
/-- exactly, not only up to order -/
theorem locs_shift (k : Nat) : (n : Node) → (anc : List Node) →
    locs (anc.map (Node.shift k)) (n.shift k) = (locs anc n).map (Loc.map (Node.shift k))
  | .gene i t d l, anc => rfl
  | .hog info t d ks ds, anc => by
    rw [Node.shift, locs, locs, List.map_cons]
    exact congrArg (_ :: ·) (locsL_shift k ks (.hog info t d ks ds :: anc))
theorem locsL_shift (k : Nat) : (ns : List Node) → (anc : List Node) →
    locsL (anc.map (Node.shift k)) (Node.shiftL k ns) = (locsL anc ns).map (Loc.map (Node.shift k))
  | [], anc => rfl
  | n :: ns, anc => by
    simp only [Node.shiftL, locsL, List.map_append]
    rw [locs_shift k n anc, locsL_shift k ns anc]
end

/-- the same analysis with every object number increased by `k` -/
def Ham.renumber (H : Ham) (k : Nat) : Ham := { H with tops := H.tops.map fun p => (p.1, p.2.shift k) }

/-- **the numbering of objects does not matter** (the creation counter depends on what was loaded before: other
    families, skipped families, C11 / C14): the renumbered analysis is isomorphic through `Node.shift k` -/
theorem LocIso.of_renumber (H : Ham) (k : Nat) : LocIso H (H.renumber k) (Node.shift k) :=
  LocIso.of_mapTops H (Node.shift k) (fun n => List.Perm.of_eq (locs_shift k n []))
    (fun n => List.Perm.of_eq (shift_leaves k n)) (fun _ _ => rfl) (sh_tx k)
    (fun n => by rw [sh_dup, Option.isSome_map])
    (fun n1 n2 => by
      rw [sh_key, sh_key]
      exact Key.shift_inj k _ _)

/-! ### sibling order

  `Node.reorder f` applies the rule `f` to every list of children, bottom-up.  With `∀ l, (f l).Perm l` this covers every
  re-ordering of the children of every HOG (in a hierarchy with distinct identities two different HOGs have different
  children lists, so `f` can choose a different permutation for each). -/

mutual
def Node.reorder (f : List Node → List Node) : Node → Node
  | .gene i t d l => .gene i t d l
  | .hog info t d ks ds => .hog info t d (f (Node.reorderL f ks)) ds
def Node.reorderL (f : List Node → List Node) : List Node → List Node
  | [] => []
  | n :: ns => n.reorder f :: Node.reorderL f ns
end

theorem reorderL_eq_map (f : List Node → List Node) (l : List Node) : Node.reorderL f l = l.map (Node.reorder f) := by
  induction l with
  | nil => rfl
  | cons x xs ih => rw [Node.reorderL, ih, List.map_cons]

theorem reorder_tx (f : List Node → List Node) (n : Node) : (n.reorder f).tx = n.tx := by cases n <;> rfl
theorem reorder_dup (f : List Node → List Node) (n : Node) : (n.reorder f).dup = n.dup := by cases n <;> rfl
theorem reorder_key (f : List Node → List Node) (n : Node) : (n.reorder f).key = n.key := by cases n <;> rfl

theorem leavesL_perm {l1 l2 : List Node} (h : l1.Perm l2) : (Node.leavesL l1).Perm (Node.leavesL l2) := by
  induction h with
  | nil => exact List.Perm.refl _
  | cons x _ ih => simp only [Node.leavesL]; exact ih.append_left _
  | swap x y l => simp only [Node.leavesL, ← List.append_assoc]; exact List.perm_append_comm.append_right _
  | trans _ _ ih1 ih2 => exact ih1.trans ih2

theorem locsL_perm (A : List Node) {l1 l2 : List Node} (h : l1.Perm l2) : (locsL A l1).Perm (locsL A l2) := by
  induction h with
  | nil => exact List.Perm.refl _
  | cons x _ ih => simp only [locsL]; exact ih.append_left _
  | swap x y l => simp only [locsL, ← List.append_assoc]; exact List.perm_append_comm.append_right _
  | trans _ _ ih1 ih2 => exact ih1.trans ih2

mutual
theorem reorder_leaves (f : List Node → List Node) (hf : ∀ l, (f l).Perm l) :
    (n : Node) → (n.reorder f).leaves.Perm n.leaves
  | .gene .. => List.Perm.refl _
  | .hog info t d ks ds => by
    simp only [Node.reorder, Node.leaves]
    exact (leavesL_perm (hf _)).trans (reorderL_leaves f hf ks)
theorem reorderL_leaves (f : List Node → List Node) (hf : ∀ l, (f l).Perm l) :
    (l : List Node) → (Node.leavesL (Node.reorderL f l)).Perm (Node.leavesL l)
  | [] => List.Perm.refl _
  | n :: ns => by
    simp only [Node.reorderL, Node.leavesL]
    exact (reorder_leaves f hf n).append (reorderL_leaves f hf ns)
end

mutual
theorem locs_reorder_perm (f : List Node → List Node) (hf : ∀ l, (f l).Perm l) : (n : Node) → (anc : List Node) →
    (locs (anc.map (Node.reorder f)) (n.reorder f)).Perm ((locs anc n).map (Loc.map (Node.reorder f)))
  | .gene i t d lf, anc => List.Perm.refl _
  | .hog info t d ks ds, anc => by
    rw [Node.reorder, locs, locs, List.map_cons]
    exact ((locsL_perm _ (hf _)).trans (locsL_reorder_perm f hf ks (.hog info t d ks ds :: anc))).cons _
theorem locsL_reorder_perm (f : List Node → List Node) (hf : ∀ l, (f l).Perm l) : (ns : List Node) → (anc : List Node) →
    (locsL (anc.map (Node.reorder f)) (Node.reorderL f ns)).Perm ((locsL anc ns).map (Loc.map (Node.reorder f)))
  | [], anc => List.Perm.refl _
  | n :: ns, anc => by
    simp only [Node.reorderL, locsL, List.map_append]
    exact (locs_reorder_perm f hf n anc).append (locsL_reorder_perm f hf ns anc)
end

theorem mem_locsL_reorder (f : List Node → List Node) (hf : ∀ l, (f l).Perm l) (l' : Loc) :
    (ns : List Node) → (anc : List Node) →
      (l' ∈ locsL (anc.map (Node.reorder f)) (Node.reorderL f ns) ↔ ∃ l ∈ locsL anc ns, l' = l.map (Node.reorder f)) := by
  intro ns anc
  rw [(locsL_reorder_perm f hf ns anc).mem_iff, List.mem_map]
  exact exists_congr fun l => and_congr_right fun _ => eq_comm

/-- the same analysis with the children of every HOG re-ordered by the rule `f` -/
def Ham.reorder (H : Ham) (f : List Node → List Node) : Ham := { H with tops := H.tops.map fun p => (p.1, p.2.reorder f) }

/-- **the order of the members of a group does not matter**: the analysis with the children of every HOG re-ordered is
    isomorphic through `Node.reorder f` -/
theorem LocIso.of_reorder (H : Ham) (f : List Node → List Node) (hf : ∀ l, (f l).Perm l) :
    LocIso H (H.reorder f) (Node.reorder f) :=
  LocIso.of_mapTops H (Node.reorder f) (fun n => locs_reorder_perm f hf n []) (reorder_leaves f hf) (fun _ _ => rfl)
    (reorder_tx f) (fun n => by rw [reorder_dup]) (fun n1 n2 => by rw [reorder_key, reorder_key])

end Pyham
