/-
  C03 for fully explicit encodings: when every group of the history is written out, loading the
  encoding of a history yields a HOG that realises the history.  An explicit history is recoverable
  and none of its lineages spills a paralogGroup, so this is the theorem of `Refinement.lean` read at
  histories without skipped levels.
-/
import PyhamModel.Lemmas.Refinement
import PyhamModel.Lemmas.LevelRule
namespace Pyham

mutual
/-- every group of the history is written (no elided single-member levels) -/
def explicit : SL → Bool
  | .gene _ _ => true
  | .grp w _ _ subs => w && explicitSubs subs
def explicitSubs : List Sub → Bool
  | [] => true
  | .one _ l :: r => explicit l && explicitSubs r
  | .dup _ _ cs :: r => explicitCopies cs && explicitSubs r
  | .ann _ :: r => explicitSubs r
def explicitCopies : List SL → Bool
  | [] => true
  | c :: cs => explicit c && explicitCopies cs
end

theorem ruleLevel_children (p : Taxon) (taxa spill : List Taxon) (hne : taxa ≠ [])
    (ht : ∀ t ∈ taxa, ∃ i, t = i :: p) (hs : ∀ m ∈ spill, m = p) : ruleLevel taxa spill = some p := by
  apply ruleLevel_of p taxa spill _ (fun m hm => hs m hm ▸ List.suffix_refl p)
  obtain ⟨x, xs, rfl⟩ := List.exists_cons_of_ne_nil hne
  obtain ⟨i, rfl⟩ := ht x List.mem_cons_self
  by_cases h : ∀ y ∈ (i :: p) :: xs, y = i :: p
  · exact baseLevel_const i p _ hne h
  · simp only [Classical.not_forall] at h
    obtain ⟨y, hy, hyx⟩ := h
    obtain ⟨j, rfl⟩ := ht y hy
    have hbelow : ∀ z ∈ (i :: p) :: xs, p <:+ z := by
      intro z hz
      obtain ⟨k, rfl⟩ := ht z hz
      exact List.suffix_cons k p
    exact baseLevel_spread p _ hbelow (i :: p) (j :: p) i j List.mem_cons_self hy (List.suffix_refl _) (List.suffix_refl _)
      (fun e => hyx (by rw [e]))

mutual
theorem explicit_rec (T : STree) : (l : SL) → (q : Taxon) → wfh T q l = true → explicit l = true →
    recoverable q l = true ∧ appTaxa q l = [q] ∧ spillSL q l = []
  | .gene _ _, q, _, _ => ⟨rfl, rfl, rfl⟩
  | .grp false _ _ _, q, _, hex => by simp [explicit] at hex
  | .grp true hid label subs, q, hw, hex => by
    simp only [wfh, Bool.and_eq_true, decide_eq_true_eq] at hw
    simp only [explicit, Bool.and_eq_true] at hex
    obtain ⟨h1, h2, h3, h4⟩ := explicitSubs_rec T subs q hw.2 hex.2
    have hne : appTaxaSubs q subs ≠ [] := by
      intro e
      rw [e] at h3
      have := hw.1.1.1.2
      simp at h3
      omega
    refine ⟨?_, rfl, rfl⟩
    simp only [recoverable, Bool.and_eq_true, h1, beq_iff_eq, true_and]
    exact ruleLevel_children q _ _ hne h2 h4
theorem explicitSubs_rec (T : STree) : (subs : List Sub) → (p : Taxon) → wfhSubs T p subs = true →
    explicitSubs subs = true →
    recoverableSubs p subs = true ∧ (∀ t ∈ appTaxaSubs p subs, ∃ i, t = i :: p) ∧
      realSubs subs ≤ (appTaxaSubs p subs).length ∧ (∀ m ∈ spillSubs p subs, m = p)
  | [], p, _, _ => ⟨rfl, nofun, Nat.le_refl _, nofun⟩
  | .one i l :: r, p, hw, hex => by
    simp only [wfhSubs, Bool.and_eq_true] at hw
    simp only [explicitSubs, Bool.and_eq_true] at hex
    obtain ⟨a1, a2, a3⟩ := explicit_rec T l (i :: p) hw.1 hex.1
    obtain ⟨b1, b2, b3, b4⟩ := explicitSubs_rec T r p hw.2 hex.2
    simp only [recoverableSubs, appTaxaSubs, spillSubs, realSubs, a1, a2, a3, b1, Bool.and_self, List.cons_append,
      List.nil_append, List.mem_cons, List.length_cons, true_and]
    refine ⟨?_, Nat.succ_le_succ b3, b4⟩
    intro t ht
    rcases ht with rfl | ht
    · exact ⟨i, rfl⟩
    · exact b2 t ht
  | .dup i pgid cs :: r, p, hw, hex => by
    obtain ⟨hlen, hwc, hwr⟩ := wfhSubs_cons_dup.mp hw
    replace hex := (Bool.and_eq_true _ _).mp hex
    obtain ⟨a1, a2, a3⟩ := explicitCopies_rec T cs (i :: p) hwc hex.1
    obtain ⟨b1, b2, b3, b4⟩ := explicitSubs_rec T r p hwr hex.2
    have hne : appTaxaCopies (i :: p) cs ≠ [] := by
      intro e
      rw [e] at a3
      simp at a3
      omega
    refine ⟨recoverableSubs_cons_dup.mpr ⟨a1, ruleDup_const i p _ hne a2, b1⟩, ?_, ?_, ?_⟩
    · intro t ht
      rcases List.mem_append.mp ht with ht | ht
      · exact ⟨i, a2 t ht⟩
      · exact b2 t ht
    · show realSubs r + 1 ≤ (appTaxaCopies (i :: p) cs ++ appTaxaSubs p r).length
      rw [List.length_append, a3]
      omega
    · intro m hm
      rcases List.mem_cons.mp hm with rfl | hm
      · rfl
      · exact b4 m hm
  | .ann e :: r, p, hw, hex => explicitSubs_rec T r p ((Bool.and_eq_true _ _).mp hw).2 hex
theorem explicitCopies_rec (T : STree) : (cs : List SL) → (q : Taxon) → wfhCopies T q cs = true →
    explicitCopies cs = true →
    recoverableCopies q cs = true ∧ (∀ t ∈ appTaxaCopies q cs, t = q) ∧
      (appTaxaCopies q cs).length = cs.length
  | [], q, _, _ => by simp [recoverableCopies, appTaxaCopies]
  | c :: cs, q, hw, hex => by
    simp only [wfhCopies, Bool.and_eq_true] at hw
    simp only [explicitCopies, Bool.and_eq_true] at hex
    obtain ⟨a1, a2, a3⟩ := explicit_rec T c q hw.1 hex.1
    obtain ⟨b1, b2, b3⟩ := explicitCopies_rec T cs q hw.2 hex.2
    simp only [recoverableCopies, appTaxaCopies, a1, a2, a3, b1, b3, List.isEmpty_nil, Bool.and_self,
      List.cons_append, List.nil_append, List.mem_cons, List.length_cons, true_and, and_true]
    intro t ht
    rcases ht with rfl | ht
    · rfl
    · exact b2 t ht
end

theorem explicit_recoverable (T : STree) (q : Taxon) (l : SL) (hg : isGrp l = true)
    (hw : wfh T q l = true) (hex : explicit l = true) :
    isWrittenGrp l = true ∧ recoverable q l = true := by
  refine ⟨?_, (explicit_rec T l q hw hex).1⟩
  cases l with
  | gene _ _ => cases hg
  | grp w _ _ _ =>
    simp only [explicit, Bool.and_eq_true] at hex
    exact hex.1

/-! `LinRes` / `CopRes`, proved by `lin_main` / `cop_main`: `lin_ns` / `cop_g` (Refinement.lean) at explicit histories. -/

def LinRes (env : Env) (q : Taxon) (len : Nat) (l : SL) (hb : HogBuild) (ps : PS) : Prop :=
  ∃ n ps', elems env len (encode env.T env.nm q l) hb ps = .ok ({ hb with kids := hb.kids ++ [n] }, ps') ∧
    n.tx = q ∧ n.dup = flagAt len ps ∧ Realises q l n ∧ KeySpec l n ps.next ps'.next ∧ Fr ps ps' ∧
    ∀ d0, d0 < ps.next → ps'.getDup d0 =
      if flagAt len ps = some d0 then (ps.getDup d0).map (addMems [n.key]) else ps.getDup d0

def CopRes (env : Env) (q : Taxon) (len : Nat) (cs : List SL) (G2 : List String) (hb : HogBuild) (ps : PS) :
    Prop :=
  ∃ ks ps', elems env len (encodeCopies env.T env.nm q cs) hb ps = .ok ({ hb with kids := hb.kids ++ ks }, ps') ∧
    RealisesCopies q cs ks ∧ (∀ k ∈ ks, k.tx = q ∧ k.dup = flagAt len ps) ∧ ks.length = cs.length ∧
    KInv (hb.kids ++ ks) ps'.next G2 ∧ Fr ps ps' ∧
    ∀ d0, d0 < ps.next → ps'.getDup d0 =
      if flagAt len ps = some d0 then (ps.getDup d0).map (addMems (ks.map Node.key)) else ps.getDup d0

/-- the apparent node of a lineage that is written at its own taxon is the node itself -/
theorem ns_explicit {T : STree} {nm : Naming} {q : Taxon} {l : SL} {x : Node} (h : NS T nm q l x)
    (ht : appTaxa q l = [q]) : x.tx = q ∧ Realises q l x := by
  obtain ⟨e, he, hat, hw⟩ := h
  have htx : x.tx = q := by
    rw [ht] at hat
    exact (List.cons.inj hat).1.symm
  have hnil : e = [] := by
    rw [htx] at he
    exact List.append_left_eq_self.mp he.symm
  subst hnil
  have hR := realises_setDup q l _ x.dup (hw _ (Wraps.nil _))
  have hx : (x.setDup none).setDup x.dup = x := by cases x <;> rfl
  rw [hx] at hR
  exact ⟨htx, realisesA_realises' T nm l q x hR⟩

theorem nsCopies_explicit {T : STree} {nm : Naming} {q : Taxon} (cs : List SL) (ks : List Node)
    (hw : wfhCopies T q cs = true) (hex : explicitCopies cs = true) (h : NSCopies T nm q cs ks) :
    RealisesCopies q cs ks ∧ (∀ k ∈ ks, k.tx = q) ∧ ks.length = cs.length := by
  induction cs generalizing ks with
  | nil =>
    simp only [NSCopies] at h
    subst h
    exact ⟨by simp only [RealisesCopies], by simp, rfl⟩
  | cons c cs ih =>
    simp only [wfhCopies, Bool.and_eq_true] at hw
    simp only [explicitCopies, Bool.and_eq_true] at hex
    simp only [NSCopies] at h
    obtain ⟨a, A, rfl, ha, hA⟩ := h
    obtain ⟨htx, hR⟩ := ns_explicit ha (explicit_rec T c q hw.1 hex.1).2.1
    obtain ⟨b1, b2, b3⟩ := ih A hw.2 hex.2 hA
    refine ⟨?_, ?_, congrArg (· + 1) b3⟩
    · simp only [RealisesCopies]
      exact ⟨a, A, rfl, hR, b1⟩
    · intro k hk
      rcases List.mem_cons.mp hk with rfl | hk
      · exact htx
      · exact b2 k hk

theorem lin_main (env : Env) (hn : NamesInj env.T env.nm) : (l : SL) → (q : Taxon) → (len : Nat) →
    (hb : HogBuild) → (ps : PS) → wfh env.T q l = true → explicit l = true →
    (∀ e ∈ geneTaxaSL q l, env.lookupGene e.1 = some e.2) → (genesOf l).Nodup → PInv len ps →
    LinRes env q len l hb ps
  | l, q, len, hb, ps, hw, hex, hdecl, hnd, hinv => by
    obtain ⟨hrec, hat, hsp⟩ := explicit_rec env.T l q hw hex
    obtain ⟨n, ps', hel, hdup, hns, hkey, hfr, hg⟩ := lin_ns env hn l q len hb ps hw hrec hsp hdecl hnd hinv
    obtain ⟨htx, hR⟩ := ns_explicit hns hat
    exact ⟨n, ps', hel, htx, hdup, hR, hkey, hfr, hg⟩

theorem cop_main (env : Env) (hn : NamesInj env.T env.nm) : (cs : List SL) → (q : Taxon) → (len : Nat) →
    (G2 : List String) → (hb : HogBuild) → (ps : PS) → wfhCopies env.T q cs = true →
    explicitCopies cs = true → (∀ e ∈ geneTaxaCopies q cs, env.lookupGene e.1 = some e.2) →
    (genesOfCopies cs ++ G2).Nodup → PInv len ps → KInv hb.kids ps.next (genesOfCopies cs ++ G2) →
    CopRes env q len cs G2 hb ps
  | cs, q, len, G2, hb, ps, hw, hex, hdecl, hnd, hinv, hk => by
    obtain ⟨ks, ps', hel, hns, hfl, hkinv, hfr, hg⟩ := cop_g env hn cs q len G2 hb ps hw
      (explicitCopies_rec env.T cs q hw hex).1 hdecl hnd hinv hk
    obtain ⟨hR, htx, hlen⟩ := nsCopies_explicit cs ks hw hex hns
    exact ⟨ks, ps', hel, hR, fun k hk' => ⟨htx k hk', hfl k hk'⟩, hlen, hkinv, hfr, hg⟩

/-- **C03 (explicit encodings), whole file**: all families are loaded, in order, each realising its
    history -/
theorem C03_explicit (env : Env) (fams : List (Taxon × SL))
    (hf : ∀ f ∈ fams, isGrp f.2 = true ∧ wfh env.T f.1 f.2 = true ∧ explicit f.2 = true ∧ Declared env f.1 f.2 ∧
      (genesOf f.2).Nodup)
    (hn : NamesInj env.T env.nm) :
    ∃ tops ps, topElems env none (fams.flatMap fun f => encode env.T env.nm f.1 f.2) [] {} = .ok (tops, ps) ∧
      tops.length = fams.length ∧
      ∀ i (h1 : i < tops.length) (h2 : i < fams.length), Realises (fams[i]).1 (fams[i]).2 tops[i] :=
  C03_load_realises env fams (fun f hf' => by
    obtain ⟨h1, h2, h3, h4, h5⟩ := hf f hf'
    obtain ⟨a, b⟩ := explicit_recoverable env.T f.1 f.2 h1 h2 h3
    exact ⟨a, h2, b, h4, h5⟩) hn

end Pyham
