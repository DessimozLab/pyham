/-
  C01 / C20 (last sentence): no gene is lost, duplicated or moved to another family by the loader.
  Every step of the model -- chaining up through missing levels, re-homing duplicated children,
  collapsing -- preserves the multiset of gene leaves, for ANY input on which the load succeeds.

  The loader is followed once, for what the subtrees are made of (`Node.atoms`: an entry per HOG node,
  an id per gene leaf).  Every step keeps the atoms up to order while one HOG entry is gained per
  registration (`Grew`) and one gene per reference read.  The statements about gene leaves below and
  those about the registration log in `Registry` are the two halves of that one statement.
-/
import PyhamModel.Model.Parser
import PyhamModel.Lemmas.LoaderEqns
namespace Pyham
open Except (bind_ok ite_error_ok)

theorem setDup_key (d : Option Nat) (n : Node) : (n.setDup d).key = n.key := by
  cases n <;> rfl

theorem setDup_tx (d : Option Nat) (n : Node) : (n.setDup d).tx = n.tx := by cases n <;> rfl

theorem setDup_dup (d : Option Nat) (n : Node) : (n.setDup d).dup = d := by cases n <;> rfl

theorem setDup_self (n : Node) (d : Option Nat) (h : n.dup = d) : n.setDup d = n := by
  cases n <;> simp_all [Node.setDup, Node.dup]

mutual
def Node.atoms : Node → List (Taxon × Key ⊕ String)
  | .gene i _ _ _ => [.inr i]
  | .hog info t _ ks _ => .inl (t, .h info.uid) :: atomsL ks
def atomsL : List Node → List (Taxon × Key ⊕ String)
  | [] => []
  | k :: ks => k.atoms ++ atomsL ks
end

theorem setDup_atoms (d : Option Nat) (n : Node) : (n.setDup d).atoms = n.atoms := by
  cases n <;> rfl

theorem atomsL_append (a b : List Node) : atomsL (a ++ b) = atomsL a ++ atomsL b := by
  induction a with
  | nil => rfl
  | cons x xs ih => simp only [List.cons_append, atomsL, ih, List.append_assoc]

theorem atomsL_singleton (x : Node) : atomsL [x] = x.atoms := List.append_nil _

theorem atomsL_map_setDup (d : Option Nat) (l : List Node) :
    atomsL (l.map (Node.setDup d)) = atomsL l := by
  induction l with
  | nil => rfl
  | cons x xs ih => simp only [List.map_cons, atomsL, ih, setDup_atoms]

theorem key_g_atoms (n : Node) (i : String) (h : n.key = .g i) : n.atoms = [.inr i] := by
  cases n with
  | gene j _ _ _ => cases h; rfl
  | hog => cases h

mutual
theorem leaves_eq_atoms : (n : Node) → n.leaves = n.atoms.filterMap Sum.getRight?
  | .gene .. => rfl
  | .hog _ _ _ ks _ => by
    simp only [Node.leaves, Node.atoms, List.filterMap_cons, Sum.getRight?_inl, leavesL_eq_atoms ks]
theorem leavesL_eq_atoms : (ns : List Node) → Node.leavesL ns = (atomsL ns).filterMap Sum.getRight?
  | [] => rfl
  | n :: ns => by
    simp only [Node.leavesL, atomsL, List.filterMap_append, leaves_eq_atoms n, leavesL_eq_atoms ns]
end

theorem filterMap_right_inl {α β} (l : List α) :
    (l.map (Sum.inl : α → α ⊕ β)).filterMap Sum.getRight? = [] := by
  induction l with
  | nil => rfl
  | cons x xs ih => exact ih

theorem filterMap_right_inr {α β} (l : List β) :
    (l.map (Sum.inr : β → α ⊕ β)).filterMap Sum.getRight? = l := by
  induction l with
  | nil => rfl
  | cons x xs ih => exact congrArg (x :: ·) ih

theorem modDup_next (ps : PS) (d : Nat) (f : DupBuild → DupBuild) : (ps.modDup d f).next = ps.next := rfl

theorem register_next (ps : PS) (t : Taxon) (k : Key) : (ps.register t k).next = ps.next := rfl

theorem pgOpen_next_reg (len : Nat) (pgid : Option String) (ps : PS) :
    ps.next ≤ (pgOpen len pgid ps).next ∧ (pgOpen len pgid ps).reg = ps.reg := by
  simp only [pgOpen]
  split
  · split
    · exact ⟨Nat.le_refl _, rfl⟩
    · exact ⟨Nat.le_succ _, rfl⟩
  · exact ⟨Nat.le_succ _, rfl⟩

theorem pgOpen_next (len : Nat) (pgid : Option String) (ps : PS) : ps.next ≤ (pgOpen len pgid ps).next :=
  (pgOpen_next_reg len pgid ps).1

theorem pgOpen_reg (len : Nat) (pgid : Option String) (ps : PS) : (pgOpen len pgid ps).reg = ps.reg :=
  (pgOpen_next_reg len pgid ps).2

theorem setMRCA_spec (kids : List Node) (ps : PS) (d : Nat) (ps' : PS) (h : setMRCA kids ps d = .ok ps') :
    ps'.next = ps.next ∧ ps'.reg = ps.reg := by
  unfold setMRCA at h
  repeat' split at h
  all_goals cases h
  all_goals exact ⟨rfl, rfl⟩

theorem pgClose_spec (kids : List Node) (ps ps' : PS) (h : pgClose kids ps = .ok ps') :
    ps'.next = ps.next ∧ ps'.reg = ps.reg := by
  rw [pgClose] at h
  split at h
  · cases h
  · split at h
    · replace h := (ite_error_ok h).2
      obtain ⟨ps1, hv, h⟩ := bind_ok h
      have := setMRCA_spec _ _ _ _ hv
      split at h <;> cases h <;> exact this
    · cases h

theorem pgClose_next (kids : List Node) (ps ps' : PS) (h : pgClose kids ps = .ok ps') :
    ps'.next = ps.next :=
  (pgClose_spec kids ps ps' h).1

theorem pgClose_reg (kids : List Node) (ps ps' : PS) (h : pgClose kids ps = .ok ps') :
    ps'.reg = ps.reg :=
  (pgClose_spec kids ps ps' h).2

/-- from `ps` to `ps'` the counter does not go back, the log is extended, and the atoms `A` have become `A'` by
    gaining one HOG entry per new registration -/
def Grew (ps ps' : PS) (A A' : List (Taxon × Key ⊕ String)) : Prop :=
  ps.next ≤ ps'.next ∧ ∃ new, ps'.reg = ps.reg ++ new ∧ A'.Perm (A ++ new.map .inl)

namespace Grew
variable {ps ps1 ps' : PS} {A A1 A' B : List (Taxon × Key ⊕ String)}

theorem next (g : Grew ps ps' A A') : ps.next ≤ ps'.next := g.1

theorem of_eq (hn : ps.next ≤ ps'.next) (hr : ps'.reg = ps.reg) (p : A'.Perm A) : Grew ps ps' A A' :=
  ⟨hn, [], by rw [hr, List.append_nil], by rwa [List.map_nil, List.append_nil]⟩

theorem refl (ps : PS) (A : List (Taxon × Key ⊕ String)) : Grew ps ps A A :=
  of_eq (Nat.le_refl _) rfl (List.Perm.refl _)

theorem refl_nil (ps : PS) (A : List (Taxon × Key ⊕ String)) : Grew ps ps (A ++ [].map .inr) A :=
  of_eq (Nat.le_refl _) rfl (List.append_nil _ ▸ .refl _)

theorem register {x : Taxon × Key} (hn : ps.next ≤ ps'.next) (hr : ps'.reg = ps.reg ++ [x]) :
    Grew ps ps' A (.inl x :: A) :=
  ⟨hn, [x], hr, List.perm_append_singleton _ _ |>.symm⟩

theorem trans (g1 : Grew ps ps1 A A1) (g2 : Grew ps1 ps' A1 A') : Grew ps ps' A A' := by
  obtain ⟨n1, new1, r1, p1⟩ := g1
  obtain ⟨n2, new2, r2, p2⟩ := g2
  refine ⟨Nat.le_trans n1 n2, new1 ++ new2, by rw [r2, r1, List.append_assoc], ?_⟩
  rw [List.map_append, ← List.append_assoc]
  exact p2.trans (p1.append_right _)

theorem perm_left (p : A.Perm B) (g : Grew ps ps' A A') : Grew ps ps' B A' :=
  trans (of_eq (Nat.le_refl _) rfl p) g

theorem perm_right (g : Grew ps ps' A A') (p : B.Perm A') : Grew ps ps' A B :=
  trans g (of_eq (Nat.le_refl _) rfl p)

/-- `Grew` does not look at the duplication store -/
theorem modDup {d : Nat} {f : DupBuild → DupBuild} (g : Grew ps ps' A A') :
    Grew ps (ps'.modDup d f) A A' := g

theorem append_left (B : List (Taxon × Key ⊕ String)) (g : Grew ps ps' A A') :
    Grew ps ps' (B ++ A) (B ++ A') := by
  obtain ⟨n, new, r, p⟩ := g
  refine ⟨n, new, r, ?_⟩
  rw [List.append_assoc]
  exact p.append_left B

theorem append_right (B : List (Taxon × Key ⊕ String)) (g : Grew ps ps' A A') :
    Grew ps ps' (A ++ B) (A' ++ B) :=
  (g.append_left B).perm_left List.perm_append_comm |>.perm_right List.perm_append_comm

theorem pg {len : Nat} {pgid : Option String} {kids : List Node} (g : Grew (pgOpen len pgid ps) ps1 A A')
    (hc : pgClose kids ps1 = .ok ps') : Grew ps ps' A A' := by
  obtain ⟨c1, c2⟩ := pgClose_spec _ _ _ hc
  exact ((of_eq (pgOpen_next ..) (pgOpen_reg ..) (.refl _)).trans g).trans
    (of_eq (Nat.le_of_eq c1.symm) c2 (.refl _))

theorem right (g : Grew ps ps' A A') :
    (A'.filterMap Sum.getRight?).Perm (A.filterMap Sum.getRight?) := by
  obtain ⟨_, new, _, p⟩ := g
  have := p.filterMap Sum.getRight?
  rwa [List.filterMap_append, filterMap_right_inl, List.append_nil] at this

theorem leaves {a b : List Node} {r : List String} (g : Grew ps ps' (atomsL a ++ r.map .inr) (atomsL b)) :
    (Node.leavesL b).Perm (Node.leavesL a ++ r) := by
  have := g.right
  rwa [List.filterMap_append, filterMap_right_inr, ← leavesL_eq_atoms, ← leavesL_eq_atoms] at this

end Grew

/-- HOG identities among a list of nodes are pairwise distinct -/
def HogKeysNodup (ns : List Node) : Prop := ((ns.filter (fun n => !n.isGene)).map Node.key).Nodup

/-- all HOG identities in the list were handed out before the counter reached `n` -/
def UidsBelow (n : Nat) (ns : List Node) : Prop := ∀ k ∈ ns, ∀ u, k.key = Key.h u → u < n

def UidsFrom (m : Nat) (ns : List Node) : Prop := ∀ k ∈ ns, ∀ u, k.key = Key.h u → m ≤ u

theorem UidsBelow.singleton {N : Nat} {x : Node} (h : ∀ u, x.key = .h u → u < N) : UidsBelow N [x] :=
  fun _ hk => List.mem_singleton.mp hk ▸ h

theorem uidsFrom_singleton {m : Nat} {x : Node} (h : ∀ u, x.key = .h u → m ≤ u) : UidsFrom m [x] :=
  fun _ hk => List.mem_singleton.mp hk ▸ h

theorem eraseKey_map_key (k : Key) (ns : List Node) :
    (eraseKey k ns).map Node.key = (ns.map Node.key).erase k := by
  induction ns with
  | nil => rfl
  | cons n ns ih =>
    simp only [eraseKey, List.map_cons, List.erase_cons]
    split <;> simp [ih]

theorem eraseKey_sublist (k : Key) (ns : List Node) : (eraseKey k ns).Sublist ns := by
  induction ns with
  | nil => exact List.Sublist.refl _
  | cons n ns ih =>
    simp only [eraseKey]
    split
    · exact List.sublist_cons_self _ _
    · exact ih.cons_cons _

theorem mem_of_mem_eraseKey {k : Key} {ns : List Node} {x : Node} (h : x ∈ eraseKey k ns) : x ∈ ns :=
  (eraseKey_sublist k ns).subset h

def isH : Key → Bool
  | .h _ => true
  | _ => false

theorem hogFilter_keys (ns : List Node) :
    (ns.filter (fun n => !n.isGene)).map Node.key = (ns.map Node.key).filter isH := by
  rw [List.filter_map]
  congr 1
  apply List.filter_congr
  intro n _
  cases n <;> rfl

theorem HogKeysNodup.iff_count (ns : List Node) : HogKeysNodup ns ↔ ∀ u, (ns.map Node.key).count (.h u) ≤ 1 := by
  unfold HogKeysNodup
  rw [hogFilter_keys, List.nodup_iff_count]
  constructor
  · intro h u
    have := h (.h u)
    rwa [List.count_filter (by rfl)] at this
  · intro h a
    cases a with
    | g i =>
      rw [List.count_eq_zero.mpr fun hm => Bool.noConfusion (List.mem_filter.mp hm).2]
      exact Nat.zero_le _
    | h u => rw [List.count_filter (by rfl)]; exact h u

theorem HogKeysNodup.sublist {a b : List Node} (h : a.Sublist b) (hb : HogKeysNodup b) : HogKeysNodup a :=
  List.Nodup.sublist ((h.filter _).map Node.key) hb

theorem UidsBelow.sublist {n} {a b : List Node} (h : a.Sublist b) (hb : UidsBelow n b) : UidsBelow n a :=
  fun k hk u hu => hb k (h.subset hk) u hu

theorem UidsBelow.mono {n m} {a : List Node} (hb : UidsBelow n a) (h : n ≤ m) : UidsBelow m a :=
  fun k hk u hu => Nat.lt_of_lt_of_le (hb k hk u hu) h

theorem HogKeysNodup.eq_of_key : (kids : List Node) → HogKeysNodup kids → ∀ a ∈ kids, ∀ b ∈ kids, ∀ u,
    a.key = .h u → b.key = .h u → a = b := by
  intro kids hnd a ha b hb u hau hbu
  have hp := List.pairwise_map.mp hnd
  have mem : ∀ x ∈ kids, x.key = .h u → x ∈ kids.filter fun n => !n.isGene := by
    intro x hx hxu
    cases x with
    | gene => cases hxu
    | hog => exact List.mem_filter.mpr ⟨hx, rfl⟩
  exact List.Pairwise.forall_of_forall_of_flip (R := fun x y => x.key = y.key → x = y) (fun _ _ _ => rfl)
    (hp.imp fun h e => absurd e h) (hp.imp fun h e => absurd e.symm h) (mem a ha hau) (mem b hb hbu)
    (hau.trans hbu.symm)

/-- counted by identity, the children `cs` still to be visited are among `kids` (gene keys may repeat) -/
def KeyLe (cs kids : List Node) : Prop :=
  ∀ k, (cs.map Node.key).count k ≤ (kids.map Node.key).count k

theorem exists_of_keyLe {a : Node} {cs kids : List Node} (h : KeyLe cs kids) (ha : a ∈ cs) :
    ∃ b ∈ kids, b.key = a.key :=
  List.mem_map.mp (List.count_pos_iff.mp
    (Nat.lt_of_lt_of_le (List.count_pos_iff.mpr (List.mem_map_of_mem ha)) (h a.key)))

theorem keyLe_filter (p : Node → Bool) (kids : List Node) : KeyLe (kids.filter p) kids :=
  fun k => (List.filter_sublist.map Node.key).count_le k

theorem keyLe_tail_erase {c : Node} {cs kids : List Node} (h : KeyLe (c :: cs) kids) :
    KeyLe cs (eraseKey c.key kids) := by
  intro k
  have := h k
  rw [List.map_cons, List.count_cons] at this
  rw [eraseKey_map_key, List.count_erase]
  exact Nat.le_sub_of_add_le this

theorem keyLe_append_right {cs kids : List Node} (x : List Node) (h : KeyLe cs kids) :
    KeyLe cs (kids ++ x) := by
  intro k
  rw [List.map_append, List.count_append]
  exact Nat.le_trans (h k) (Nat.le_add_right _ _)

theorem UidsBelow.of_keyLe {N : Nat} {cs kids : List Node} (h : KeyLe cs kids) (hb : UidsBelow N kids) :
    UidsBelow N cs := by
  intro a ha u hu
  obtain ⟨b, hbm, hbk⟩ := exists_of_keyLe h ha
  exact hb b hbm u (hbk.trans hu)

theorem UidsBelow.append_iff {N : Nat} {a b : List Node} :
    UidsBelow N (a ++ b) ↔ UidsBelow N a ∧ UidsBelow N b := by
  constructor
  · intro h
    exact ⟨fun k hk => h k (List.mem_append_left _ hk), fun k hk => h k (List.mem_append_right _ hk)⟩
  · rintro ⟨h1, h2⟩ k hk
    rcases List.mem_append.mp hk with hk | hk
    · exact h1 k hk
    · exact h2 k hk

theorem count_hkey_eq_zero {l : List Node} {u : Nat} (h : ∀ x ∈ l, x.key ≠ .h u) :
    (l.map Node.key).count (.h u) = 0 := by
  rw [List.count_eq_zero, List.mem_map]
  rintro ⟨x, hx, hxk⟩
  exact h x hx hxk

/-- identities handed out before `N` and identities handed out from `N` on never clash -/
theorem HogKeysNodup.append {a b : List Node} (N : Nat) (ha : HogKeysNodup a) (hb : HogKeysNodup b)
    (hlo : UidsBelow N a) (hhi : UidsFrom N b) : HogKeysNodup (a ++ b) := by
  rw [HogKeysNodup.iff_count] at *
  intro u
  rw [List.map_append, List.count_append]
  by_cases hu : u < N
  · rw [count_hkey_eq_zero fun x hx hxk => Nat.not_le_of_lt hu (hhi x hx u hxk)]
    exact ha u
  · rw [count_hkey_eq_zero fun x hx hxk => hu (hlo x hx u hxk), Nat.zero_add]
    exact hb u

theorem HogKeysNodup.singleton (x : Node) : HogKeysNodup [x] :=
  List.Pairwise.sublist (List.filter_sublist.map Node.key) (List.pairwise_singleton _ x.key)

theorem HogKeysNodup.of_keys_perm {a b : List Node} (h : (a.map Node.key).Perm (b.map Node.key))
    (hb : HogKeysNodup b) : HogKeysNodup a := by
  rw [HogKeysNodup.iff_count] at *
  intro u
  rw [h.count_eq]
  exact hb u

theorem map_setDup_keys (d : Option Nat) (l : List Node) :
    (l.map (Node.setDup d)).map Node.key = l.map Node.key := by
  simp [List.map_map, Function.comp_def, setDup_key]

theorem HogKeysNodup.map_setDup {d : Option Nat} {l : List Node} (h : HogKeysNodup l) :
    HogKeysNodup (l.map (Node.setDup d)) := by
  rw [HogKeysNodup.iff_count] at *
  rw [map_setDup_keys]; exact h

theorem UidsBelow.map_setDup {N : Nat} {d : Option Nat} {l : List Node} (h : UidsBelow N l) :
    UidsBelow N (l.map (Node.setDup d)) := by
  intro k hk u hu
  obtain ⟨x, hx, rfl⟩ := List.mem_map.mp hk
  rw [setDup_key] at hu
  exact h x hx u hu

theorem uidsFrom_map_setDup {m : Nat} {d : Option Nat} {l : List Node} (h : UidsFrom m l) :
    UidsFrom m (l.map (Node.setDup d)) := by
  intro k hk u hu
  obtain ⟨x, hx, rfl⟩ := List.mem_map.mp hk
  rw [setDup_key] at hu
  exact h x hx u hu

def KeyDet (cs kids : List Node) : Prop :=
  ∀ a ∈ cs, ∀ b ∈ kids, a.key = b.key → a.atoms = b.atoms

theorem HogKeysNodup.keyDet {cs kids : List Node} (hnd : HogKeysNodup kids) (hsub : ∀ a ∈ cs, a ∈ kids) :
    KeyDet cs kids := by
  intro a ha b hb hab
  cases hk : b.key with
  | g i => rw [key_g_atoms b i hk, key_g_atoms a i (hab.trans hk)]
  | h u => rw [HogKeysNodup.eq_of_key kids hnd a (hsub a ha) b hb u (hab.trans hk) hk]

theorem keyDet_filter {kids : List Node} (p : Node → Bool) (hnd : HogKeysNodup kids) :
    KeyDet (kids.filter p) kids :=
  HogKeysNodup.keyDet hnd (fun _ ha => (List.mem_filter.mp ha).1)

theorem keyDet_tail_erase {c : Node} {cs kids : List Node} (h : KeyDet (c :: cs) kids) :
    KeyDet cs (eraseKey c.key kids) :=
  fun a ha b hb hab => h a (List.mem_cons_of_mem _ ha) b (mem_of_mem_eraseKey hb) hab

theorem keyDet_append {cs a b : List Node} (ha : KeyDet cs a) (hb : KeyDet cs b) : KeyDet cs (a ++ b) :=
  fun x hx y hy => (List.mem_append.mp hy).elim (ha x hx y) (hb x hx y)

/-- removing a node by identity takes away its atoms, whichever node of that identity is hit -/
theorem eraseKey_atoms_gen (c : Node) (kids : List Node) (hex : ∃ b ∈ kids, b.key = c.key)
    (hdet : ∀ b ∈ kids, b.key = c.key → b.atoms = c.atoms) :
    (atomsL (eraseKey c.key kids) ++ c.atoms).Perm (atomsL kids) := by
  induction kids with
  | nil =>
    obtain ⟨b, hb, _⟩ := hex
    cases hb
  | cons n ns ih =>
    rw [eraseKey]
    split
    · rename_i hk
      rw [← hdet n (List.mem_cons_self ..) (eq_of_beq hk), atomsL]
      exact List.perm_append_comm
    · rename_i hk
      rw [atomsL, atomsL, List.append_assoc]
      refine List.Perm.append_left _ (ih ?_ fun b hb => hdet b (List.mem_cons_of_mem _ hb))
      obtain ⟨b, hb, hbk⟩ := hex
      rcases List.mem_cons.mp hb with rfl | hb'
      · exact absurd (beq_iff_eq.mpr hbk) hk
      · exact ⟨b, hb', hbk⟩

theorem eraseKey_atoms {c : Node} {cs kids : List Node} (ha : KeyLe (c :: cs) kids)
    (hd : KeyDet (c :: cs) kids) : (atomsL (eraseKey c.key kids) ++ c.atoms).Perm (atomsL kids) :=
  eraseKey_atoms_gen c kids (exists_of_keyLe ha (List.mem_cons_self ..))
    fun b hb hbk => (hd c (List.mem_cons_self ..) b hb hbk.symm).symm

theorem eraseKey_leaves_perm (c : Node) (kids : List Node) (hc : c ∈ kids) (hnd : HogKeysNodup kids) :
    (Node.leavesL (eraseKey c.key kids) ++ c.leaves).Perm (Node.leavesL kids) := by
  have := (eraseKey_atoms_gen c kids ⟨c, hc, rfl⟩ fun b hb hbk =>
    HogKeysNodup.keyDet hnd (fun _ h => h) b hb c hc hbk).filterMap Sum.getRight?
  rwa [List.filterMap_append, ← leavesL_eq_atoms, ← leaves_eq_atoms, ← leavesL_eq_atoms] at this

/-- the last disjunct is what `step_inv` asks of the node that replaces a child: the identity and atoms of `cur`, or
    a uid handed out during the call -/
theorem addMissing_spec {hid : Option String} {ts : List Taxon} {cur : Node} {ps : PS} {top : Node}
    {ps' : PS} (h : addMissing hid cur ts ps = .ok (top, ps')) :
    Grew ps ps' cur.atoms top.atoms ∧ top.leaves = cur.leaves ∧
      ((top.key = cur.key ∧ top.atoms = cur.atoms) ∨ ∃ u, top.key = .h u ∧ ps.next ≤ u ∧ u < ps'.next) := by
  induction ts generalizing cur ps with
  | nil =>
    cases h
    exact ⟨Grew.refl _ _, rfl, Or.inl ⟨rfl, rfl⟩⟩
  | cons t ts ih =>
    obtain ⟨g, hl, hk⟩ := ih (ite_error_ok h).2
    have g0 : Grew ps ({ ps with next := ps.next + 1 }.register t (.h ps.next)) cur.atoms
        (.inl (t, .h ps.next) :: cur.atoms) := Grew.register (Nat.le_succ _) rfl
    refine ⟨g0.trans (g.perm_left (by rw [Node.atoms, atomsL_singleton]; exact .refl _)),
      hl.trans (List.append_nil _), Or.inr ?_⟩
    rcases hk with ⟨hk, _⟩ | ⟨u, hu, hu1, hu2⟩
    · exact ⟨ps.next, hk, Nat.le_refl _, g.next⟩
    · exact ⟨u, hu, Nat.le_of_succ_le hu1, hu2⟩

/-- wrapping a node into single-child HOGs keeps its genes -/
theorem addMissing_leaves (hid : Option String) (cur : Node) (ts : List Taxon) (ps : PS) (top : Node) (ps' : PS)
    (h : addMissing hid cur ts ps = .ok (top, ps')) : top.leaves = cur.leaves :=
  (addMissing_spec h).2.1

/-- what a repair loop relies on while the children `cs` of `kids` are still to be visited, the counter at `N` -/
structure Pass (cs kids : List Node) (N : Nat) : Prop where
  keyLe : KeyLe cs kids
  nodup : HogKeysNodup kids
  below : UidsBelow N kids
  det : KeyDet cs kids

theorem Pass.filter {kids : List Node} {N : Nat} (p : Node → Bool) (hb : HogKeysNodup kids)
    (hc : UidsBelow N kids) : Pass (kids.filter p) kids N :=
  ⟨keyLe_filter _ _, hb, hc, keyDet_filter _ hb⟩

/-- one round of "remove the child by identity, append the top of its chain" -/
theorem step_inv {ps ps1 : PS} {c top' : Node} {cs kids : List Node} (hp : Pass (c :: cs) kids ps.next)
    (g : Grew ps ps1 c.atoms top'.atoms)
    (hk : (top'.key = c.key ∧ top'.atoms = c.atoms) ∨
      ∃ u, top'.key = .h u ∧ ps.next ≤ u ∧ u < ps1.next) :
    Grew ps ps1 (atomsL kids) (atomsL (eraseKey c.key kids ++ [top'])) ∧
      Pass cs (eraseKey c.key kids ++ [top']) ps1.next := by
  obtain ⟨ha, hb, hc, hd⟩ := hp
  obtain ⟨b0, hb0, hb0k⟩ := exists_of_keyLe ha (List.mem_cons_self ..)
  have hE := eraseKey_sublist c.key kids
  have hcN := (hc.sublist hE).mono g.next
  have hK := keyLe_append_right [top'] (keyLe_tail_erase ha)
  refine ⟨?_, ?_⟩
  · rw [atomsL_append, atomsL_singleton]
    exact (g.append_left _).perm_left (eraseKey_atoms ha hd)
  rcases hk with ⟨hk, hka⟩ | ⟨u0, hk, hu1, hu2⟩
  · refine ⟨hK, HogKeysNodup.of_keys_perm ?_ hb,
      UidsBelow.append_iff.mpr ⟨hcN, UidsBelow.singleton fun u hu => ?_⟩,
      keyDet_append (keyDet_tail_erase hd) fun a ha' b hb' hab => ?_⟩
    · -- the node goes to the end of the list: the identities are permuted
      rw [List.map_append, eraseKey_map_key, List.map_singleton, hk, ← hb0k]
      exact (List.perm_append_singleton _ _).trans
        (List.perm_cons_erase (List.mem_map_of_mem hb0)).symm
    · exact Nat.lt_of_lt_of_le (hc b0 hb0 u (hb0k.trans (hk.symm.trans hu))) g.next
    · rw [List.mem_singleton.mp hb', hka,
        hd a (List.mem_cons_of_mem _ ha') b0 hb0 (hab.trans ((List.mem_singleton.mp hb' ▸ hk).trans hb0k.symm)),
        hd c (List.mem_cons_self ..) b0 hb0 hb0k.symm]
  · refine ⟨hK, HogKeysNodup.append ps.next (hb.sublist hE) (HogKeysNodup.singleton _) (hc.sublist hE) ?_,
      UidsBelow.append_iff.mpr ⟨hcN, UidsBelow.singleton fun u hu => ?_⟩,
      keyDet_append (keyDet_tail_erase hd) fun a ha' b hb' hab => ?_⟩
    · exact uidsFrom_singleton fun u hu => Key.h.inj (hk.symm.trans hu) ▸ hu1
    · exact Key.h.inj (hk.symm.trans hu) ▸ hu2
    · -- an identity handed out just now is not that of a child
      exact absurd (UidsBelow.of_keyLe ha hc a (List.mem_cons_of_mem _ ha') u0
        (hab.trans (List.mem_singleton.mp hb' ▸ hk))) (Nat.not_lt_of_le hu1)

theorem genericPass_spec {hid : Option String} {level : Taxon} {cs kids : List Node} {ps : PS}
    {kids' : List Node} {ps' : PS} (h : genericPass hid level cs kids ps = .ok (kids', ps'))
    (hp : Pass cs kids ps.next) :
    Grew ps ps' (atomsL kids) (atomsL kids') ∧ HogKeysNodup kids' ∧ UidsBelow ps'.next kids' := by
  induction cs generalizing kids ps with
  | nil =>
    cases h
    exact ⟨Grew.refl _ _, hp.nodup, hp.below⟩
  | cons c cs ih =>
    obtain ⟨⟨top, ps1⟩, hr, h⟩ := bind_ok h
    obtain ⟨g, _, hk⟩ := addMissing_spec hr
    obtain ⟨i1, i2⟩ := step_inv hp g hk
    obtain ⟨j1, j2⟩ := ih h i2
    exact ⟨i1.trans j1, j2⟩

theorem rehomeDirect_spec {hid : Option String} {level : Taxon} {d : Nat} {cs kids : List Node}
    {mem : List Key} {ps : PS} {kids' : List Node} {mem' : List Key} {ps' : PS}
    (h : rehomeDirect hid level d cs kids mem ps = .ok (kids', mem', ps')) (hp : Pass cs kids ps.next) :
    Grew ps ps' (atomsL kids) (atomsL kids') ∧ HogKeysNodup kids' ∧ UidsBelow ps'.next kids' := by
  induction cs generalizing kids mem ps with
  | nil =>
    cases h
    exact ⟨Grew.refl _ _, hp.nodup, hp.below⟩
  | cons c cs ih =>
    obtain ⟨⟨top, ps1⟩, hr, h⟩ := bind_ok h
    obtain ⟨g, _, hk⟩ := addMissing_spec hr
    have step := step_inv (top' := top.setDup (some d)) (ps1 := ps1) hp
    simp only [setDup_atoms, setDup_key] at g hk step
    obtain ⟨i1, i2⟩ := step g hk
    obtain ⟨j1, j2⟩ := ih (ite_error_ok h).2 i2
    exact ⟨i1.trans j1, j2⟩

theorem rehomeUnder_spec {hid : Option String} {mrcaTx : Taxon} {cs kids mk : List Node} {ps : PS}
    {kids' mk' : List Node} {ps' : PS}
    (h : rehomeUnder hid mrcaTx cs kids mk ps = .ok (kids', mk', ps'))
    (ha : KeyLe cs kids) (hd : KeyDet cs kids) :
    Grew ps ps' (atomsL mk ++ atomsL kids) (atomsL mk' ++ atomsL kids') ∧ kids'.Sublist kids := by
  induction cs generalizing kids mk ps with
  | nil =>
    cases h
    exact ⟨Grew.refl _ _, List.Sublist.refl _⟩
  | cons c cs ih =>
    obtain ⟨⟨top, ps1⟩, hr, h⟩ := bind_ok h
    obtain ⟨g, _⟩ := addMissing_spec hr
    rw [setDup_atoms] at g
    obtain ⟨j1, j2⟩ := ih h (keyLe_tail_erase ha) (keyDet_tail_erase hd)
    refine ⟨Grew.trans ?_ j1, j2.trans (eraseKey_sublist _ _)⟩
    rw [atomsL_append, atomsL_singleton]
    refine ((g.append_left _).append_right _).perm_left ?_
    rw [List.append_assoc]
    exact (List.perm_append_comm.trans (eraseKey_atoms ha hd)).append_left _

theorem dupStep_spec {hid : Option String} {level : Taxon} {st : CloseSt} {d : Nat} {st' : CloseSt}
    (h : dupStep hid level st d = .ok st') (hb : HogKeysNodup st.kids)
    (hc : UidsBelow st.ps.next st.kids) :
    Grew st.ps st'.ps (atomsL st.kids) (atomsL st'.kids) ∧ HogKeysNodup st'.kids ∧
      UidsBelow st'.ps.next st'.kids := by
  rw [dupStep] at h
  split at h
  · split at h
    · replace h := (ite_error_ok h).2
      split at h
      · -- the members move under a new HOG at the level of the duplication
        obtain ⟨⟨k1, m1, p1⟩, hr, h⟩ := bind_ok h
        cases h
        obtain ⟨j1, j2⟩ := rehomeUnder_spec hr (keyLe_filter _ _) (keyDet_filter _ hb)
        have hn : st.ps.next < p1.next := j1.next
        refine ⟨?_, ?_, ?_⟩
        · dsimp only
          rw [atomsL_append, atomsL_singleton, Node.atoms, atomsL_map_setDup]
          exact (Grew.trans (Grew.register (Nat.le_succ _) rfl) (j1.append_left [_])).modDup.perm_right
            List.perm_append_comm
        · exact HogKeysNodup.append st.ps.next (hb.sublist j2) (HogKeysNodup.singleton _) (hc.sublist j2)
            (uidsFrom_singleton fun u hu => Key.h.inj hu ▸ Nat.le_refl _)
        · exact UidsBelow.append_iff.mpr ⟨(hc.sublist j2).mono (Nat.le_of_lt hn),
            UidsBelow.singleton fun u hu => Key.h.inj hu ▸ hn⟩
      · obtain ⟨⟨k1, m1, p1⟩, hr, h⟩ := bind_ok h
        cases h
        obtain ⟨j1, j2⟩ := rehomeDirect_spec hr (Pass.filter _ hb hc)
        exact ⟨j1.modDup, j2⟩
    · cases h
  · cases h

theorem dupSteps_spec {hid : Option String} {level : Taxon} {ds : List Nat} {st st' : CloseSt}
    (h : dupSteps hid level ds st = .ok st') (hb : HogKeysNodup st.kids)
    (hc : UidsBelow st.ps.next st.kids) :
    Grew st.ps st'.ps (atomsL st.kids) (atomsL st'.kids) ∧ HogKeysNodup st'.kids ∧
      UidsBelow st'.ps.next st'.kids := by
  induction ds generalizing st with
  | nil =>
    cases h
    exact ⟨Grew.refl _ _, hb, hc⟩
  | cons d ds ih =>
    obtain ⟨st1, h1, h⟩ := bind_ok h
    obtain ⟨i1, i2, i3⟩ := dupStep_spec h1 hb hc
    obtain ⟨j1, j2⟩ := ih h i2 i3
    exact ⟨i1.trans j1, j2⟩

theorem closeOg_spec {env : Env} {top : Bool} {hb : HogBuild} {ps : PS} {res : List Node} {ps' : PS}
    (h : closeOg env top hb ps = .ok (res, ps'))
    (hnd : HogKeysNodup hb.kids) (hfresh : UidsBelow ps.next hb.kids) (huid : hb.info.uid < ps.next) :
    Grew ps ps' (atomsL hb.kids) (atomsL res) ∧ HogKeysNodup res ∧ UidsBelow ps'.next res ∧
      (UidsFrom hb.info.uid hb.kids → UidsFrom hb.info.uid res) ∧ (top = true → ∃ x, res = [x]) := by
  obtain ⟨lv, hlv, h⟩ := bind_ok h
  cases lv with
  | collapse =>
    obtain ⟨hnt, h⟩ := ite_error_ok h
    split at h
    · cases h
      exact ⟨Grew.refl _ _, hnd, hfresh, id, fun ht => absurd ht hnt⟩
    · split at h
      · replace h := (ite_error_ok h).2
        dsimp only at h
        split at h
        · cases h
        · cases h
          refine ⟨?_, HogKeysNodup.map_setDup hnd, UidsBelow.map_setDup hfresh, uidsFrom_map_setDup,
            fun ht => absurd ht hnt⟩
          rw [atomsL_map_setDup]
          exact Grew.refl _ _
      · cases h
  | «at» lv0 =>
    obtain ⟨level, hl, h⟩ := bind_ok h
    obtain ⟨st, hst, h⟩ := bind_ok h
    obtain ⟨⟨kids, ps2⟩, hg, h⟩ := bind_ok h
    cases h
    obtain ⟨i1, i2, i3⟩ := dupSteps_spec hst hnd hfresh
    obtain ⟨j1, _⟩ := genericPass_spec hg (Pass.filter _ i2 i3)
    have hn : hb.info.uid < ps'.next := Nat.lt_of_lt_of_le huid (i1.trans j1).next
    refine ⟨?_, HogKeysNodup.singleton _, UidsBelow.singleton fun u hu => Key.h.inj hu ▸ hn,
      fun _ => uidsFrom_singleton fun u hu => Key.h.inj hu ▸ Nat.le_refl _, fun _ => ⟨_, rfl⟩⟩
    rw [atomsL_singleton, Node.atoms]
    refine Grew.trans ?_ ((i1.trans j1).append_left [.inl (level, Key.h hb.info.uid)])
    exact Grew.register (Nat.le_refl _) rfl

/-- closing an orthologGroup hands exactly the genes of its members to the enclosing element -/
theorem closeOg_leaves (env : Env) (top : Bool) (hb : HogBuild) (ps : PS) (res : List Node) (ps' : PS)
    (h : closeOg env top hb ps = .ok (res, ps'))
    (hnd : HogKeysNodup hb.kids) (hfresh : UidsBelow ps.next hb.kids) (huid : hb.info.uid < ps.next) :
    (Node.leavesL res).Perm (Node.leavesL hb.kids) ∧ HogKeysNodup res ∧ UidsBelow ps'.next res ∧
      ps.next ≤ ps'.next := by
  obtain ⟨h1, h2, h3, _⟩ := closeOg_spec h hnd hfresh huid
  have := h1.right
  rw [← leavesL_eq_atoms, ← leavesL_eq_atoms] at this
  exact ⟨this, h2, h3, h1.next⟩

/-- the invariant threaded through the parse of one open group.  The members of an open group were
    all created after the group itself, which is what keeps identities distinct when a collapsing
    group hands its members to the enclosing one. -/
def LInv (hb : HogBuild) (ps : PS) : Prop :=
  HogKeysNodup hb.kids ∧ UidsBelow ps.next hb.kids ∧ hb.info.uid < ps.next ∧
    ∀ k ∈ hb.kids, ∀ u, k.key = Key.h u → hb.info.uid < u

theorem linv_mono {hb : HogBuild} {ps ps' : PS} (inv : LInv hb ps) (h : ps.next ≤ ps'.next) :
    LInv hb ps' :=
  ⟨inv.1, inv.2.1.mono h, Nat.lt_of_lt_of_le inv.2.2.1 h, inv.2.2.2⟩

theorem linv_append {hb hb' : HogBuild} {ps ps' : PS} {res : List Node} (inv : LInv hb ps)
    (hk : hb'.kids = hb.kids ++ res) (hi : hb'.info.uid = hb.info.uid) (h1 : HogKeysNodup res)
    (h2 : UidsBelow ps'.next res) (h3 : ps.next ≤ ps'.next) (h4 : UidsFrom ps.next res) :
    LInv hb' ps' := by
  obtain ⟨i1, i2, i3, i4⟩ := inv
  rw [LInv, hk, hi]
  refine ⟨HogKeysNodup.append ps.next i1 h1 i2 h4, UidsBelow.append_iff.mpr ⟨i2.mono h3, h2⟩,
    Nat.lt_of_lt_of_le i3 h3, fun k hkm u hu => ?_⟩
  rcases List.mem_append.mp hkm with hkm | hkm
  · exact i4 k hkm u hu
  · exact Nat.lt_of_lt_of_le i3 (h4 k hkm u hu)

theorem linv_new (uid : Nat) (hid og : Option String) (dup : Option Nat) (ps : PS) (h : uid < ps.next) :
    LInv { info := newInfo uid hid og, dup := dup, kids := [] } ps := by
  refine ⟨?_, ?_, h, ?_⟩
  · simp [HogKeysNodup]
  · intro k hk; cases hk
  · intro k hk; cases hk

theorem newMember_spec (len : Nat) (k : Key) (ps : PS) :
    (newMember len k ps).2.next = ps.next ∧ (newMember len k ps).2.reg = ps.reg := by
  unfold newMember
  dsimp only
  split <;> exact ⟨rfl, rfl⟩

theorem openOg_spec (len : Nat) (hid og : Option String) (ps : PS) (A : List (Taxon × Key ⊕ String)) :
    Grew ps (openOg len hid og ps).2 A A ∧ LInv (openOg len hid og ps).1 (openOg len hid og ps).2 := by
  obtain ⟨hn, hr⟩ := newMember_spec len (.h ps.next) { ps with next := ps.next + 1 }
  exact ⟨Grew.of_eq (Nat.le_of_eq hn.symm |> Nat.le_trans (Nat.le_succ _)) hr (.refl _),
    linv_new ps.next hid og _ _ (Nat.lt_of_lt_of_le (Nat.lt_succ_self _) (Nat.le_of_eq hn.symm))⟩

theorem closeOg_group {env : Env} {top : Bool} {ps ps1 ps2 ps3 : PS} {nb : HogBuild} {res : List Node}
    {R : List (Taxon × Key ⊕ String)} (g0 : Grew ps ps1 R R) (g1 : Grew ps1 ps2 R (atomsL nb.kids))
    (inv : LInv nb ps2) (hu : nb.info.uid = ps.next) (hw : closeOg env top nb ps2 = .ok (res, ps3)) :
    Grew ps ps3 R (atomsL res) ∧ HogKeysNodup res ∧ UidsBelow ps3.next res ∧ UidsFrom ps.next res ∧
      (top = true → ∃ x, res = [x]) := by
  obtain ⟨j1, j2, j3, j4⟩ := inv
  obtain ⟨c1, c2, c3, c4, c5⟩ := closeOg_spec hw j1 j2 j3
  exact ⟨g0.trans (g1.trans c1), c2, c3, hu ▸ c4 fun k hk u hu => Nat.le_of_lt (j4 k hk u hu), c5⟩

/-- what `elem` / `elems` (`run`) does to an open group when the elements reference the genes `refs` -/
def ElemSpec (run : Nat → HogBuild → PS → Except Err (HogBuild × PS)) (refs : List String) : Prop :=
  ∀ {len hb ps hb' ps'}, run len hb ps = .ok (hb', ps') → LInv hb ps →
    Grew ps ps' (atomsL hb.kids ++ refs.map .inr) (atomsL hb'.kids) ∧ LInv hb' ps' ∧
      hb'.info.uid = hb.info.uid

theorem elems_spec_of {env : Env} {es : List Elem}
    (ih : ∀ e ∈ es, ElemSpec (elem env · e) (refsOf e)) : ElemSpec (elems env · es) (refsOfL es) := by
  induction es with
  | nil =>
    intro len hb ps hb' ps' h inv
    cases h
    exact ⟨Grew.refl_nil _ _, inv, rfl⟩
  | cons e es ihes =>
    intro len hb ps hb' ps' h inv
    obtain ⟨⟨hb1, ps1⟩, hv, h⟩ := bind_ok h
    obtain ⟨ihe, ih⟩ := List.forall_mem_cons.mp ih
    obtain ⟨i1, i2, i3⟩ := ihe hv inv
    obtain ⟨j1, j2, j3⟩ := ihes ih h i2
    refine ⟨?_, j2, j3.trans i3⟩
    rw [refsOfL, List.map_append, ← List.append_assoc]
    exact (i1.append_right _).trans j1

theorem elem_spec (env : Env) (e : Elem) : ElemSpec (elem env · e) (refsOf e) := by
  induction e using Elem.induct with
  | ref id loft =>
    intro len hb ps hb' ps' h inv
    simp only [elem_ref] at h
    split at h
    · cases h
    · cases h
      obtain ⟨hn, hr⟩ := newMember_spec len (.g id) ps
      refine ⟨Grew.of_eq (Nat.le_of_eq hn.symm) hr ?_, linv_append inv rfl rfl (HogKeysNodup.singleton _)
        (UidsBelow.singleton fun u hu => nomatch hu) (Nat.le_of_eq hn.symm)
        (uidsFrom_singleton fun u hu => nomatch hu), rfl⟩
      rw [atomsL_append]
      exact .refl _
  | score id v =>
    intro len hb ps hb' ps' h inv
    cases h
    exact ⟨Grew.refl_nil _ _, inv, rfl⟩
  | prop n v =>
    intro len hb ps hb' ps' h inv
    cases h
    exact ⟨Grew.refl_nil _ _, inv, rfl⟩
  | pg pgid its ih =>
    intro len hb ps hb' ps' h inv
    obtain ⟨⟨hb1, ps2⟩, hv, h⟩ := bind_ok h
    obtain ⟨ps3, hc, h⟩ := bind_ok h
    cases h
    obtain ⟨i1, i2, i3⟩ := elems_spec_of ih hv (linv_mono inv (pgOpen_next ..))
    exact ⟨i1.pg hc, linv_mono i2 (Nat.le_of_eq (pgClose_next _ _ _ hc).symm), i3⟩
  | og hid og its ih =>
    intro len hb ps hb' ps' h inv
    simp only [elem_og] at h
    obtain ⟨⟨nb, ps2⟩, hv, h⟩ := bind_ok h
    obtain ⟨⟨res, ps3⟩, hw, h⟩ := bind_ok h
    cases h
    obtain ⟨g0, inv0⟩ := openOg_spec len hid og ps ((refsOfL its).map .inr)
    obtain ⟨i1, i2, i3⟩ := elems_spec_of ih hv inv0
    obtain ⟨c1, c2, c3, c4, _⟩ := closeOg_group g0 i1 i2 i3 hw
    refine ⟨?_, linv_append inv rfl rfl c2 c3 c1.next c4, rfl⟩
    rw [atomsL_append]
    exact c1.append_left _

theorem elems_spec (env : Env) (es : List Elem) : ElemSpec (elems env · es) (refsOfL es) :=
  elems_spec_of fun e _ => elem_spec env e

theorem topOg_atoms {env : Env} {hid og : Option String} {its : List Elem} {tops : List Node} {ps : PS}
    {tops' : List Node} {ps' : PS}
    (h : topElem env none (.og hid og its) tops ps = .ok (tops', ps')) :
    ∃ x, tops' = tops ++ [x] ∧ Grew ps ps' ((refsOfL its).map .inr) x.atoms ∧
      ∀ u, x.key = Key.h u → ps.next ≤ u ∧ u < ps'.next := by
  rw [topElem_og_none] at h
  obtain ⟨⟨nb, ps2⟩, hv, h⟩ := bind_ok h
  obtain ⟨⟨res, ps3⟩, hw, h⟩ := bind_ok h
  cases h
  obtain ⟨g0, inv0⟩ := openOg_spec 0 hid og ps ((refsOfL its).map .inr)
  obtain ⟨i1, i2, i3⟩ := elems_spec env its hv inv0
  obtain ⟨c1, c2, c3, c4, c5⟩ := closeOg_group g0 i1 i2 i3 hw
  obtain ⟨x, rfl⟩ := c5 rfl
  exact ⟨x, rfl, atomsL_singleton x ▸ c1, fun u hu =>
    ⟨c4 x (List.mem_singleton_self x) u hu, c3 x (List.mem_singleton_self x) u hu⟩⟩

/-- one orthologGroup at the top of <groups>: the family appended holds the referenced genes -/
theorem topOg_spec (env : Env) (hid og : Option String) (its : List Elem) (tops : List Node) (ps : PS)
    (tops' : List Node) (ps' : PS)
    (h : topElem env none (.og hid og its) tops ps = .ok (tops', ps')) :
    ∃ x, tops' = tops ++ [x] ∧ x.leaves.Perm (refsOfL its) ∧
      (∀ u, x.key = Key.h u → ps.next ≤ u ∧ u < ps'.next) ∧ ps.next ≤ ps'.next := by
  obtain ⟨x, hx, g, hu⟩ := topOg_atoms h
  have := g.right
  rw [filterMap_right_inr, ← leaves_eq_atoms] at this
  exact ⟨x, hx, this, hu, g.next⟩

/-- filtered load or not, the families grow by the genes `refs` referenced in the groups that are kept and by the
    HOGs registered -/
def TopSpec (flt : HogFilter) (run : List Node → PS → Except Err (List Node × PS)) (refs : List String) :
    Prop :=
  ∀ {tops ps tops' ps'}, run tops ps = .ok (tops', ps') → HogKeysNodup tops → UidsBelow ps.next tops →
    (∃ kept, (flt = none → kept = refs) ∧
      Grew ps ps' (atomsL tops ++ kept.map .inr) (atomsL tops')) ∧
      HogKeysNodup tops' ∧ UidsBelow ps'.next tops'

theorem topElems_spec_of {env : Env} {flt : HogFilter} {es : List Elem}
    (ih : ∀ e ∈ es, TopSpec flt (topElem env flt e) (refsOf e)) :
    TopSpec flt (topElems env flt es) (refsOfL es) := by
  induction es with
  | nil =>
    intro tops ps tops' ps' h hnd hfresh
    cases h
    exact ⟨⟨[], fun _ => rfl, Grew.refl_nil _ _⟩, hnd, hfresh⟩
  | cons e es ihes =>
    intro tops ps tops' ps' h hnd hfresh
    obtain ⟨⟨tops1, ps1⟩, hv, h⟩ := bind_ok h
    obtain ⟨ihe, ih⟩ := List.forall_mem_cons.mp ih
    obtain ⟨⟨r1, hr1, i1⟩, i2, i3⟩ := ihe hv hnd hfresh
    obtain ⟨⟨r2, hr2, j1⟩, j2, j3⟩ := ihes ih h i2 i3
    refine ⟨⟨r1 ++ r2, fun hf => by rw [hr1 hf, hr2 hf, refsOfL], ?_⟩, j2, j3⟩
    rw [List.map_append, ← List.append_assoc]
    exact (i1.append_right _).trans j1

theorem topElem_spec (env : Env) (flt : HogFilter) (e : Elem) :
    TopSpec flt (topElem env flt e) (refsOf e) := by
  induction e using Elem.induct with
  | ref id loft =>
    intro tops ps tops' ps' h
    rw [topElem] at h
    split at h <;> cases h
  | score id v => exact fun h => nomatch h
  | prop n v => exact fun h => nomatch h
  | pg pgid its ih =>
    intro tops ps tops' ps' h hnd hfresh
    obtain ⟨⟨tops1, ps2⟩, hv, h⟩ := bind_ok h
    obtain ⟨ps3, hc, h⟩ := bind_ok h
    cases h
    obtain ⟨⟨refs, hr, i1⟩, i2, i3⟩ := topElems_spec_of ih hv hnd (hfresh.mono (pgOpen_next ..))
    exact ⟨⟨refs, hr, i1.pg hc⟩, i2, pgClose_next _ _ _ hc ▸ i3⟩
  | og hid og its _ =>
    intro tops ps tops' ps' h hnd hfresh
    rw [topElem_og] at h
    obtain ⟨keep, hk, h⟩ := bind_ok h
    cases keep with
    | false =>
      cases h
      refine ⟨⟨[], fun e => ?_, Grew.refl_nil _ _⟩, hnd, hfresh⟩
      subst e
      cases hk
    | true =>
      obtain ⟨x, rfl, g, hx⟩ := topOg_atoms h
      refine ⟨⟨refsOfL its, fun _ => rfl, ?_⟩,
        HogKeysNodup.append ps.next hnd (HogKeysNodup.singleton _) hfresh (uidsFrom_singleton fun u hu => (hx u hu).1),
        UidsBelow.append_iff.mpr ⟨hfresh.mono g.next, UidsBelow.singleton fun u hu => (hx u hu).2⟩⟩
      rw [atomsL_append, atomsL_singleton]
      exact g.append_left _

theorem topElems_spec (env : Env) (flt : HogFilter) (es : List Elem) :
    TopSpec flt (topElems env flt es) (refsOfL es) :=
  topElems_spec_of fun e _ => topElem_spec env flt e

/-- C01 at the top of `<groups>` (unfiltered load): the families together hold exactly the referenced genes,
    each as often as it is referenced -/
theorem topElems_leaves (env : Env) (es : List Elem) (tops : List Node) (ps : PS) (tops' : List Node) (ps' : PS)
    (h : topElems env none es tops ps = .ok (tops', ps'))
    (hnd : HogKeysNodup tops) (hfresh : UidsBelow ps.next tops) :
    (Node.leavesL tops').Perm (Node.leavesL tops ++ refsOfL es) ∧ HogKeysNodup tops' ∧ UidsBelow ps'.next tops' ∧
      ps.next ≤ ps'.next := by
  obtain ⟨⟨refs, hr, g⟩, h2, h3⟩ := topElems_spec env none es h hnd hfresh
  cases hr rfl
  exact ⟨g.leaves, h2, h3, g.next⟩

def isOg : Elem → Bool
  | .og .. => true
  | _ => false

theorem topElems_fam_aux {env : Env} {es : List Elem} {tops : List Node} {ps : PS} {tops' : List Node}
    {ps' : PS} (h : topElems env none es tops ps = .ok (tops', ps')) (hog : es.all isOg = true) :
    ∃ new, tops' = tops ++ new ∧ new.length = es.length ∧
      ∀ i (h1 : i < new.length) (h2 : i < es.length), (new[i]).leaves.Perm (refsOf es[i]) := by
  induction es generalizing tops ps with
  | nil =>
    cases h
    exact ⟨[], (List.append_nil _).symm, rfl, fun i h1 => nomatch h1⟩
  | cons e es ih =>
    obtain ⟨⟨tops1, ps1⟩, hv, h⟩ := bind_ok h
    cases e with
    | og hid og its =>
      obtain ⟨x, rfl, hx, _⟩ := topOg_spec env hid og its tops ps tops1 ps1 hv
      obtain ⟨new, rfl, hl, hi⟩ := ih h hog
      refine ⟨x :: new, by rw [List.append_assoc]; rfl, congrArg (· + 1) hl, fun i h1 h2 => ?_⟩
      cases i with
      | zero => exact hx
      | succ i => exact hi i (Nat.lt_of_succ_lt_succ h1) (Nat.lt_of_succ_lt_succ h2)
    | _ => cases hog

/-- C01: when every top-level element is an orthologGroup, the i-th family holds exactly the genes
    referenced inside the i-th group -/
theorem topElems_families (env : Env) (es : List Elem) (ps : PS) (tops' : List Node) (ps' : PS)
    (h : topElems env none es [] ps = .ok (tops', ps')) (hog : es.all isOg = true) :
    tops'.length = es.length ∧
      ∀ i (h1 : i < tops'.length) (h2 : i < es.length), (tops'[i]).leaves.Perm (refsOf es[i]) := by
  obtain ⟨new, rfl, hl, hi⟩ := topElems_fam_aux h hog
  exact ⟨hl, hi⟩

end Pyham
