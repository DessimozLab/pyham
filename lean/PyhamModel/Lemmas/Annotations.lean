/-
  C19: annotations stay attached to the object they annotate.  Every written group becomes a HOG carrying
  exactly its id, scores and properties; synthesised HOGs carry none; genes keep their LOFT ids: the
  refinement theorem of Refinement.lean read with its annotation clause.
-/
import PyhamModel.Model.RealisesAnn
import PyhamModel.Lemmas.Refinement
namespace Pyham

/-- forgetting the annotation clause -/
theorem realisesA_realises (T : STree) (nm : Naming) (q : Taxon) (l : SL) (n : Node)
    (h : RealisesA T nm q l n) : Realises q l n :=
  realisesA_realises' T nm l q n h

/-- **C19**, one family -/
theorem C19_family (env : Env) (p : Taxon) (l : SL)
    (hg : isWrittenGrp l = true) (hw : wfh env.T p l = true) (hrec : recoverable p l = true)
    (hdecl : Declared env p l) (hnd : (genesOf l).Nodup) (hn : NamesInj env.T env.nm)
    (tops : List Node) (ps : PS) (hidle : Idle ps) :
    ∃ n ps', topElems env none (encode env.T env.nm p l) tops ps = .ok (tops ++ [n], ps') ∧
      RealisesA env.T env.nm p l n ∧ n.dup = none ∧ Idle ps' ∧ ps.next ≤ ps'.next :=
  C03A_family env p l hg hw hrec hdecl hnd hn tops ps hidle

/-- **C19**, whole file -/
theorem C19_load_annotations (env : Env) (fams : List (Taxon × SL))
    (hf : ∀ f ∈ fams, isWrittenGrp f.2 = true ∧ wfh env.T f.1 f.2 = true ∧ recoverable f.1 f.2 = true ∧
      Declared env f.1 f.2 ∧ (genesOf f.2).Nodup)
    (hn : NamesInj env.T env.nm) :
    ∃ tops ps, topElems env none (fams.flatMap fun f => encode env.T env.nm f.1 f.2) [] {} = .ok (tops, ps) ∧
      tops.length = fams.length ∧
      ∀ i (h1 : i < tops.length) (h2 : i < fams.length), RealisesA env.T env.nm (fams[i]).1 (fams[i]).2 tops[i] :=
  C03A_load env fams hf hn

end Pyham
