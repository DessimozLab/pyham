/-
  <species> sections written AFTER the <groups> section.

  pyham reads the document once, in the order of the file: a geneRef is resolved against the declarations read so
  far.  The recursive model (`buildHam`) reads all species sections first.  The two agree whenever no gene of a late
  species is referenced by a group: the loader looks at the declarations only through the lookups of the referenced ids.
-/
import PyhamModel.Lemmas.SaxSim
import PyhamModel.Lemmas.EnvSim
namespace Pyham

/-! ### declarations of a list of species sections -/

theorem declareSpecies_append (T : STree) (nm : Naming) (keep : String → Bool) (a b : List Species)
    (acc : List GeneRec) :
    declareSpecies T nm keep (a ++ b) acc =
      (declareSpecies T nm keep a acc).bind fun r => declareSpecies T nm keep b r := by
  induction a generalizing acc with
  | nil => rfl
  | cons s a ih =>
    rw [List.cons_append, declareSpecies_cons, declareSpecies_cons]
    exact Except.bind_eq_bind_bind fun p => ih _

/-- what a list of species sections adds: records whose ids are ids of <gene> elements of those sections -/
theorem declareSpecies_extends (T : STree) (nm : Naming) (keep : String → Bool) (b : List Species)
    (acc r : List GeneRec) (h : declareSpecies T nm keep b acc = .ok r) :
    ∃ extra, r = acc ++ extra ∧ ∀ x ∈ extra, ∃ s ∈ b, ∃ g ∈ s.genes, g.id = x.id := by
  induction b generalizing acc with
  | nil =>
    cases h
    exact ⟨[], (List.append_nil _).symm, fun _ hx => nomatch hx⟩
  | cons s b ih =>
    rw [declareSpecies_cons] at h
    revert h
    cases resolveSpecies T nm s.name with
    | error e => exact fun h => nomatch h
    | ok p =>
      intro h
      obtain ⟨extra, he, hx⟩ := ih _ h
      refine ⟨_ ++ extra, he.trans (List.append_assoc ..), fun x hxm => ?_⟩
      rcases List.mem_append.mp hxm with hm | hm
      · obtain ⟨g, hg, rfl⟩ := List.mem_map.mp hm
        exact ⟨s, List.mem_cons_self .., g, (List.mem_filter.mp hg).1, rfl⟩
      · obtain ⟨s', hs', g, hg, hid⟩ := hx x hm
        exact ⟨s', List.mem_cons_of_mem _ hs', g, hg, hid⟩

theorem lookup_late (acc extra : List GeneRec) (id : String) (h : ∀ x ∈ extra, x.id ≠ id) :
    ((acc ++ extra).reverse.map fun g => (g.id, g.tx)).lookup id =
      (acc.reverse.map fun g => (g.id, g.tx)).lookup id := by
  rw [List.reverse_append, List.map_append, List.lookup_append]
  have : (extra.reverse.map fun g => (g.id, g.tx)).lookup id = none := by
    rw [List.lookup_eq_none_iff]
    intro p hp
    obtain ⟨x, hx, rfl⟩ := List.mem_map.mp hp
    have := h x (List.mem_reverse.mp hx)
    simp only [bne_iff_ne, ne_eq]
    exact fun e => this e.symm
  rw [this]
  simp

end Pyham

namespace Pyham.Sax

/-! ### the loader sees the declarations only through the lookups of the referenced ids -/

theorem elem_congr (T : STree) (nm : Naming) (g1 g2 : List (String × Taxon)) : (len : Nat) → (e : Elem) →
    (hb : HogBuild) → (ps : PS) → (∀ id ∈ refsOf e, g1.lookup id = g2.lookup id) →
    elem { T := T, nm := nm, geneTx := g1 } len e hb ps = elem { T := T, nm := nm, geneTx := g2 } len e hb ps :=
  fun len e hb ps h => (elem_sim (envSim_refs ⟨T, nm, g1⟩ ⟨T, nm, g2⟩ rfl rfl) e len hb ps h trivial).1

theorem topElem_congr (T : STree) (nm : Naming) (g1 g2 : List (String × Taxon)) (flt : HogFilter) : (e : Elem) →
    (tops : List Node) → (ps : PS) → (∀ id ∈ refsOf e, g1.lookup id = g2.lookup id) →
    topElem { T := T, nm := nm, geneTx := g1 } flt e tops ps = topElem { T := T, nm := nm, geneTx := g2 } flt e tops ps :=
  fun e tops ps h => topElem_sim (envSim_refs ⟨T, nm, g1⟩ ⟨T, nm, g2⟩ rfl rfl) flt e tops ps h

theorem topElems_congr (T : STree) (nm : Naming) (g1 g2 : List (String × Taxon)) (flt : HogFilter) : (es : List Elem) →
    (tops : List Node) → (ps : PS) → (∀ id ∈ refsOfL es, g1.lookup id = g2.lookup id) →
    topElems { T := T, nm := nm, geneTx := g1 } flt es tops ps = topElems { T := T, nm := nm, geneTx := g2 } flt es tops ps :=
  fun es tops ps h => topElems_sim (envSim_refs ⟨T, nm, g1⟩ ⟨T, nm, g2⟩ rfl rfl) flt es tops ps
    fun e he id hid => h id ((mem_refsOfL id es).mpr ⟨e, he, hid⟩)

theorem resolved_append (T : STree) (nm : Naming) (a b : List Species) :
    resolved T nm (a ++ b) = resolved T nm a ++ resolved T nm b := by
  induction a with
  | nil => rfl
  | cons s a ih => rw [List.cons_append, resolved_cons, resolved_cons, ih, List.append_assoc]

/-- **species sections after the groups section**: a document `early species … groups … late species`, read in the
    order of the file, ends in the analysis the recursive load of (all species, groups) returns -- provided the species
    sections are all valid and no gene declared in a late section is referenced by a group.  (A reference to a gene
    that is declared only later is a KeyError in the streaming loader; the recursive model would resolve it.) -/
theorem late_species_load (T : STree) (nm : Naming) (keep : String → Bool) (flt : HogFilter)
    (early late : List Species) (groups : List Elem) (all : List GeneRec)
    (hall : declareSpecies T nm keep (early ++ late) [] = .ok all)
    (hlate : ∀ id ∈ refsOfL groups, ∀ s ∈ late, ∀ g ∈ s.genes, g.id ≠ id) :
    (drun T nm keep flt (spEvents early ++ ((eventsL groups).map .grp ++ spEvents late)) {}).map (DS.ham T nm) =
      buildHam T nm { species := early ++ late, groups := groups } keep flt := by
  have hall' := hall
  rw [declareSpecies_append] at hall
  cases h1 : declareSpecies T nm keep early [] with
  | error e =>
    rw [h1] at hall
    cases hall
  | ok genes1 =>
    rw [h1] at hall
    replace hall : declareSpecies T nm keep late genes1 = .ok all := hall
    obtain ⟨extra, hex, hids⟩ := declareSpecies_extends T nm keep late genes1 all hall
    have hcongr := topElems_congr T nm (genes1.reverse.map fun g => (g.id, g.tx))
      (all.reverse.map fun g => (g.id, g.tx)) flt groups [] {} fun id hid => by
        rw [hex]
        exact (lookup_late genes1 extra id fun x hx he =>
          have ⟨s, hs, g, hg, hgid⟩ := hids x hx
          hlate id hid s hs g hg (hgid.trans he)).symm
    have e0 : ({} : DS) = ⟨none, [], [], {}⟩ := rfl
    rw [e0, drun_species T nm keep flt early [] [] {}, h1]
    show (drun T nm keep flt ((eventsL groups).map .grp ++ spEvents late) _).map _ = _
    rw [drun_groups T nm keep flt (eventsL groups) none genes1 _ {} (spEvents late), sax_groups]
    unfold buildHam
    show _ = Except.bind (declareSpecies T nm keep (early ++ late) []) _
    rw [hall']
    show _ = Except.bind (topElems _ flt groups [] {}) _
    rw [← hcongr]
    cases topElems { T := T, nm := nm, geneTx := genes1.reverse.map fun g => (g.id, g.tx) } flt groups [] {} with
    | error e => rfl
    | ok r =>
      have hl := drun_species T nm keep flt late genes1 ([] ++ resolved T nm early) ⟨[], 0, r.1, r.2⟩ []
      rw [List.append_nil, hall] at hl
      show (drun T nm keep flt (spEvents late) _).map _ = Except.bind (List.mapM _ (early ++ late)) _
      rw [hl, declared_resolved T nm keep (early ++ late) [] all hall', resolved_append]
      rfl

end Pyham.Sax
