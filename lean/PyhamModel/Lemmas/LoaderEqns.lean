/-
  The loader of `Model/Parser.lean` as the proofs use it: induction over elements (`Elem.induct`); the pieces of
  `elem` / `topElem` / `dupStep` / `closeOg` under names of their own (`newMember`, `openOg`, `kept`, `dupUnder` /
  `dupDirect`, `closeCollapse` / `closeAt`) with one equation (by unfolding, for `rw`) per case of the recursive
  functions; `buildHam_ok`: what a successful `buildHam` ran.
-/
import PyhamModel.Model.Parser
import PyhamModel.Lemmas.ExceptAll
namespace Pyham

/-- for a group the hypothesis speaks of each item.  A proof about `elem` by this principle needs the statement about
    `elems` as "if it holds of every element": the lemmas `…_of`, by induction on the list; the list statement follows. -/
theorem Elem.induct {P : Elem → Prop} (ref : ∀ id loft, P (.ref id loft)) (score : ∀ id v, P (.score id v))
    (prop : ∀ n v, P (.prop n v)) (og : ∀ hid og its, (∀ e ∈ its, P e) → P (.og hid og its))
    (pg : ∀ pgid its, (∀ e ∈ its, P e) → P (.pg pgid its)) (e : Elem) : P e :=
  Elem.rec (motive_2 := fun es => ∀ e ∈ es, P e) ref score prop og pg (fun _ he => nomatch he)
    (fun _ _ ihe ihes => List.forall_mem_cons.mpr ⟨ihe, ihes⟩) e

theorem mem_refsOfL (id : String) (es : List Elem) : id ∈ refsOfL es ↔ ∃ e ∈ es, id ∈ refsOf e := by
  induction es with
  | nil => simp [refsOfL]
  | cons e es ih => simp [refsOfL, ih]

/-- a member `k` enters the open group at depth `len`: the flag it gets and the state after -/
def newMember (len : Nat) (k : Key) (ps : PS) : Option Nat × PS :=
  let flag := if ps.inPG == some len then ps.cur else none
  (flag, match flag with | some d => ps.addMember d k | none => ps)

/-- the state part of `openOg`, for the invariants that speak of no group id.  Not the SAX event `Sax.Ev.ogStart`. -/
def ogStart (len : Nat) (ps : PS) : Option Nat × PS :=
  newMember len (.h ps.next) { ps with next := ps.next + 1 }

/-- `_build_hog` at stack depth `len` -/
def openOg (len : Nat) (hid og : Option String) (ps : PS) : HogBuild × PS :=
  ({ info := newInfo ps.next hid og, dup := (ogStart len ps).1, kids := [] }, (ogStart len ps).2)

/-- whether a filtered load reads a top-level group (`none` = unfiltered) -/
def kept (flt : HogFilter) (hid : Option String) : Except Err Bool :=
  match flt with
  | none => .ok true
  | some ids => match hid with
    | none => .error .key
    | some i => .ok (ids.contains i)

section
variable {env : Env} {flt : HogFilter} {len : Nat} {id : String} {loft hid og pgid : Option String} {e : Elem}
  {es its : List Elem} {hb : HogBuild} {tops : List Node} {ps : PS}

theorem elem_ref : elem env len (.ref id loft) hb ps =
    match env.lookupGene id with
    | none => .error .key
    | some t =>
      .ok ({ hb with kids := hb.kids ++ [Node.gene id t (newMember len (.g id) ps).1 loft] },
        (newMember len (.g id) ps).2) := rfl

theorem elem_og : elem env len (.og hid og its) hb ps =
    (elems env (len + 1) its (openOg len hid og ps).1 (openOg len hid og ps).2).bind fun r =>
      (closeOg env false r.1 r.2).bind fun q => .ok ({ hb with kids := hb.kids ++ q.1 }, q.2) := rfl

theorem elem_pg : elem env len (.pg pgid its) hb ps =
    (elems env len its hb (pgOpen len pgid ps)).bind fun r =>
      (pgClose r.1.kids r.2).bind fun ps' => .ok (r.1, ps') := rfl

theorem elems_cons :
    elems env len (e :: es) hb ps = (elem env len e hb ps).bind fun r => elems env len es r.1 r.2 := rfl

theorem topElem_og_none : topElem env none (.og hid og its) tops ps =
    (elems env 1 its (openOg 0 hid og ps).1 (openOg 0 hid og ps).2).bind fun r =>
      (closeOg env true r.1 r.2).bind fun q => .ok (tops ++ q.1, q.2) := rfl

theorem topElem_og : topElem env flt (.og hid og its) tops ps =
    (kept flt hid).bind fun keep =>
      if !keep then .ok (tops, ps) else topElem env none (.og hid og its) tops ps :=
  match flt, hid with
  | none, _ => rfl
  | some _, none => rfl
  | some _, some _ => rfl

theorem topElem_pg : topElem env flt (.pg pgid its) tops ps =
    (topElems env flt its tops (pgOpen 0 pgid ps)).bind fun r =>
      (pgClose r.1 r.2).bind fun ps' => .ok (r.1, ps') := rfl

theorem topElems_cons :
    topElems env flt (e :: es) tops ps = (topElem env flt e tops ps).bind fun r => topElems env flt es r.1 r.2 := rfl

end

/-- `dupStep` when the duplication lies below the level of the group: the flagged children move under a new HOG -/
def dupUnder (hid : Option String) (st : CloseSt) (d : Nat) (b : DupBuild) (mrcaTx : Taxon) : Except Err CloseSt :=
  (rehomeUnder hid mrcaTx (st.kids.filter (·.dup == some d)) st.kids []
      ({ st.ps with next := st.ps.next + 1 }.register mrcaTx (.h st.ps.next))).bind fun r =>
    let mk := r.2.1.map (Node.setDup (some d))
    .ok { kids := r.1 ++ [Node.hog (chainInfo st.ps.next hid) mrcaTx none mk
            [{ did := d, pgid := b.pgid, mrca := mrcaTx, members := mk.map Node.key }]],
          dups := st.dups, ps := r.2.2.modDup d fun b => { b with members := mk.map Node.key } }

/-- `dupStep` when the duplication is at the level of the group: the flagged children are chained up in place -/
def dupDirect (hid : Option String) (level : Taxon) (st : CloseSt) (d : Nat) (b : DupBuild) (mrcaTx : Taxon) :
    Except Err CloseSt :=
  (rehomeDirect hid level d (st.kids.filter (·.dup == some d)) st.kids b.members st.ps).bind fun r =>
    .ok { kids := r.1, dups := st.dups ++ [{ did := d, pgid := b.pgid, mrca := mrcaTx, members := r.2.1 }],
          ps := r.2.2.modDup d fun b => { b with members := r.2.1 } }

theorem dupStep_eq {hid : Option String} {level : Taxon} {st : CloseSt} {d : Nat} :
    dupStep hid level st d = (do
      let some b := st.ps.getDup d | .error .unmodelled
      let some mrcaTx := b.mrca | .error .attr
      if !sameKeys b.members ((st.kids.filter (·.dup == some d)).map Node.key) then .error .unmodelled
      else if mrcaTx != level then dupUnder hid st d b mrcaTx else dupDirect hid level st d b mrcaTx) := rfl

/-- `closeOg` in the TaxRange / collapse case: the members go to the enclosing group -/
def closeCollapse (top : Bool) (hb : HogBuild) (ps : PS) : Except Err (List Node × PS) :=
  if top then .error .attr
  else match hb.dup with
    | none => .ok (hb.kids, ps)
    | some d => do
      let some b := ps.getDup d | .error .unmodelled
      if !b.members.contains (.h hb.info.uid) then .error .value
      else
        let mem := b.members.erase (.h hb.info.uid) ++ hb.kids.map Node.key
        let ps := ps.modDup d fun b => { b with members := mem }
        match ps.pstack with
        | [] => .error .index
        | f :: fs =>
          let ps := { ps with pstack := { f with depth := f.depth - 1 } :: fs }
          .ok (hb.kids.map (Node.setDup (some d)), ps)

/-- `closeOg` at the inferred level `lv0` -/
def closeAt (hb : HogBuild) (ps : PS) (lv0 : Taxon) : Except Err (List Node × PS) := do
  let level ← liftLevel ps hb.kids lv0
  let ps := ps.register level (.h hb.info.uid)
  let st ← dupSteps hb.info.hid level (dupGroups hb.kids) { kids := hb.kids, dups := [], ps := ps }
  let change := st.kids.filter fun c => c.tx.length != level.length + 1
  let (kids, ps) ← genericPass hb.info.hid level change st.kids st.ps
  .ok ([Node.hog hb.info level hb.dup kids st.dups], ps)

theorem closeOg_eq {env : Env} {top : Bool} {hb : HogBuild} {ps : PS} :
    closeOg env top hb ps = (do
      match ← inferLevel env hb with
      | .collapse => closeCollapse top hb ps
      | .at lv0 => closeAt hb ps lv0) := rfl

theorem filterTop_og {f : Filter} {i : String} {og : Option String} {its : List Elem} {gids hids : List String} :
    filterTop f (.og (some i) og its) (gids, hids) =
      .ok (if f.hogIds.contains i || (refsOfL its).any gids.contains then (gids ++ refsOfL its, hids ++ [i])
        else (gids, hids)) := rfl

theorem filterTops_cons {f : Filter} {e : Elem} {es : List Elem} {acc : List String × List String} :
    filterTops f (e :: es) acc = (filterTop f e acc).bind fun r => filterTops f es r := rfl

theorem declareSpecies_cons {T : STree} {nm : Naming} {keep : String → Bool} (s : Species) (ss : List Species)
    (acc : List GeneRec) :
    declareSpecies T nm keep (s :: ss) acc =
      (resolveSpecies T nm s.name).bind fun p =>
        declareSpecies T nm keep ss (acc ++ (s.genes.filter fun g => keep g.id).map fun g =>
          ({ id := g.id, species := s.name, tx := p, xrefs := g.xrefs } : GeneRec)) := rfl

theorem buildHam_ok {T : STree} {nm : Naming} {inp : Input} {keep : String → Bool} {flt : HogFilter} {H : Ham}
    (h : buildHam T nm inp keep flt = .ok H) :
    ∃ genes tops ps sp, declareSpecies T nm keep inp.species [] = .ok genes ∧
      topElems { T := T, nm := nm, geneTx := genes.reverse.map fun g => (g.id, g.tx) } flt inp.groups [] {} =
        .ok (tops, ps) ∧
      inp.species.mapM (fun s => (resolveSpecies T nm s.name).map fun p => (s.name, p)) = .ok sp ∧
      H = { tree := T, naming := nm, tops := tops.foldl (fun d n => dictPut d (hidOf n) n) [], genes := genes,
            species := sp, reg := ps.reg } := by
  obtain ⟨genes, hd, h⟩ := Except.bind_ok h
  obtain ⟨⟨tops, ps⟩, ht, h⟩ := Except.bind_ok h
  obtain ⟨sp, hs, h⟩ := Except.bind_ok h
  cases h
  exact ⟨genes, tops, ps, sp, hd, ht, hs, rfl⟩

end Pyham
