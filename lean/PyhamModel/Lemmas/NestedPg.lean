/-
  C14: if the flattened spelling of a file (`flatItems`: paralogGroups directly inside a paralogGroup are
  spliced into it) loads, the spelling as written loads to the same result; this direction only.

  Directly nested paralogGroups share one DuplicationNode `d`, and every close recomputes its `mrca`, so the
  two runs are compared up to that `mrca` (`Rel d`).  Below the nest nothing reads it (`sim_elem`); at the
  nest one item is one step (`Place.Laws.splice_cons`, `splice_cons_pg`).  The inner closes, which the flat
  run does not perform, succeed because an initial part of the member taxa keeps a common suffix other than
  the root when all of them do (`GoodEnd.prefix`).
-/
import PyhamModel.Model.Parser
import PyhamModel.Lemmas.TreeLemmas
import PyhamModel.Lemmas.Frames
import PyhamModel.Lemmas.LoaderEqns
namespace Pyham
open Except (bind_ok bind_bind)

mutual
/-- splice every paralogGroup that sits DIRECTLY inside a paralogGroup into its parent (recursively);
    orthologGroups are entered, their own paralogGroups flattened likewise -/
def flatElem : Elem → Elem
  | .og hid og its => .og hid og (flatItems its)
  | .pg pgid its => .pg pgid (spliceItems its)
  | e => e
/-- items of an orthologGroup (or of the top level) -/
def flatItems : List Elem → List Elem
  | [] => []
  | e :: es => flatElem e :: flatItems es
/-- items of a paralogGroup: directly nested paralogGroups disappear, their items are spliced in -/
def spliceItems : List Elem → List Elem
  | [] => []
  | .pg _ its :: es => spliceItems its ++ spliceItems es
  | e :: es => flatElem e :: spliceItems es
end

def isMember : Elem → Bool
  | .ref _ _ => true
  | .og _ _ _ => true
  | _ => false

mutual
/-- every directly nested paralogGroup contains, after splicing, at least one member (a geneRef or an
    orthologGroup) -- otherwise the loader rejects it as an empty paralogGroup -/
def nestsOk : Elem → Bool
  | .og _ _ its => nestsOkL its
  | .pg _ its => nestsOkIn its
  | _ => true
def nestsOkL : List Elem → Bool
  | [] => true
  | e :: es => nestsOk e && nestsOkL es
def nestsOkIn : List Elem → Bool
  | [] => true
  | .pg _ its :: es => (spliceItems its).any isMember && nestsOkIn its && nestsOkIn es
  | e :: es => nestsOk e && nestsOkIn es
end

mutual
/-- no `<property name="TaxRange">` anywhere: no orthologGroup is collapsed into its parent
    (the same predicate as `Elem.noLabel`) -/
def noTaxRange : Elem → Bool
  | .prop n _ => n != "TaxRange"
  | .og _ _ its => noTaxRangeL its
  | .pg _ its => noTaxRangeL its
  | _ => true
def noTaxRangeL : List Elem → Bool
  | [] => true
  | e :: es => noTaxRange e && noTaxRangeL es
end

/-- every stored duplication was allocated by the counter (the same predicate as `PS.fresh`) -/
def PS.Fresh (ps : PS) : Prop := ∀ b ∈ ps.dstore, b.did < ps.next

/-- elements that add a member to an enclosing TOP-LEVEL paralogGroup when the load keeps only the
    families selected by `flt` (a geneRef there is rejected by the loader anyway) -/
def memberF (flt : HogFilter) : Elem → Bool
  | .ref _ _ => true
  | .og hid _ _ =>
    match flt with
    | none => true
    | some ids => match hid with
      | some i => ids.contains i
      | none => false
  | _ => false

mutual
/-- `nestsOk` for the top of <groups> under a filter: a directly nested paralogGroup must keep a member -/
def nestsOkF (flt : HogFilter) : Elem → Bool
  | .og _ _ its => nestsOkL its
  | .pg _ its => nestsOkInF flt its
  | _ => true
def nestsOkLF (flt : HogFilter) : List Elem → Bool
  | [] => true
  | e :: es => nestsOkF flt e && nestsOkLF flt es
def nestsOkInF (flt : HogFilter) : List Elem → Bool
  | [] => true
  | .pg _ its :: es => (spliceItems its).any (memberF flt) && nestsOkInF flt its && nestsOkInF flt es
  | e :: es => nestsOkF flt e && nestsOkInF flt es
end

namespace NP

theorem dedup_ne_nil {α} [BEq α] (l : List α) (h : l ≠ []) : dedup l ≠ [] := by
  cases l with
  | nil => exact absurd rfl h
  | cons x xs => simp [dedup]

/-! ### the state up to the `mrca` of one duplication -/

/-- `b` with its `mrca` erased if it is duplication `d` -/
def clrB (d : Nat) (b : DupBuild) : DupBuild := if b.did == d then { b with mrca := none } else b

theorem clrB_did (d : Nat) (b : DupBuild) : (clrB d b).did = b.did := by unfold clrB; split <;> rfl
theorem clrB_members (d : Nat) (b : DupBuild) : (clrB d b).members = b.members := by unfold clrB; split <;> rfl
theorem clrB_pgid (d : Nat) (b : DupBuild) : (clrB d b).pgid = b.pgid := by unfold clrB; split <;> rfl
theorem clrB_of_ne (d : Nat) (b : DupBuild) (h : b.did ≠ d) : clrB d b = b := by
  unfold clrB; simp [h]
theorem clrB_setm (d : Nat) (b : DupBuild) (h : b.did = d) (m : Option Taxon) :
    clrB d { b with mrca := m } = clrB d b := by
  unfold clrB; simp [h]

def setMem (X : List Key) (u : DupBuild) : DupBuild := { u with members := X }

theorem setMem_did (X : List Key) (u : DupBuild) : (setMem X u).did = u.did := rfl

def setMr (m : Option Taxon) (u : DupBuild) : DupBuild := { u with mrca := m }

theorem setMr_did (m : Option Taxon) (u : DupBuild) : (setMr m u).did = u.did := rfl

def addMem (k : Key) (u : DupBuild) : DupBuild := { u with members := u.members ++ [k] }

theorem clrB_addMem (d : Nat) (k : Key) (u : DupBuild) : clrB d (addMem k u) = addMem k (clrB d u) := by
  unfold clrB addMem
  split <;> rfl

theorem clrB_setMem (d : Nat) (X : List Key) (u : DupBuild) : clrB d (setMem X u) = setMem X (clrB d u) := by
  unfold clrB setMem
  split <;> rfl

/-- equal except for the `mrca` of `d`; `pstack` is not compared, the nested run has the inner groups' frames -/
structure Rel (d : Nat) (a b : PS) : Prop where
  inpg : a.inPG = b.inPG
  cur : a.cur = b.cur
  next : a.next = b.next
  reg : a.reg = b.reg
  ds : a.dstore.map (clrB d) = b.dstore.map (clrB d)

theorem Rel.refl (d : Nat) (a : PS) : Rel d a a := ⟨rfl, rfl, rfl, rfl, rfl⟩

theorem find_map_clr (d x : Nat) (l : List DupBuild) :
    (l.map (clrB d)).find? (·.did == x) = (l.find? (·.did == x)).map (clrB d) := by
  induction l with
  | nil => rfl
  | cons u us ih =>
    simp only [List.map_cons, List.find?_cons, clrB_did]
    split
    · rfl
    · exact ih

theorem Rel.getDup {d : Nat} {a b : PS} (h : Rel d a b) (x : Nat) :
    (a.getDup x).map (clrB d) = (b.getDup x).map (clrB d) := by
  unfold PS.getDup
  rw [← find_map_clr, ← find_map_clr, h.ds]

theorem getDup_did {ps : PS} {x : Nat} {b : DupBuild} (h : ps.getDup x = some b) : b.did = x := by
  unfold PS.getDup at h
  have := List.find?_some h
  simpa using this

theorem map_clrB_getDup {d x : Nat} (ps : PS) (hx : x ≠ d) : (ps.getDup x).map (clrB d) = ps.getDup x := by
  cases h : ps.getDup x with
  | none => rfl
  | some u => rw [Option.map_some, clrB_of_ne d u (getDup_did h ▸ hx)]

theorem Rel.getDup_ne {d : Nat} {a b : PS} (h : Rel d a b) {x : Nat} (hx : x ≠ d) :
    a.getDup x = b.getDup x := by
  rw [← map_clrB_getDup a hx, ← map_clrB_getDup b hx, h.getDup]

theorem Rel.getDup_some {d : Nat} {a b : PS} (h : Rel d a b) {x : Nat} {v : DupBuild}
    (hb : b.getDup x = some v) :
    ∃ u, a.getDup x = some u ∧ u.members = v.members ∧ u.pgid = v.pgid ∧ clrB d u = clrB d v := by
  have e := h.getDup x
  cases ha : a.getDup x with
  | none => rw [ha, hb] at e; cases e
  | some u =>
    rw [ha, hb] at e
    simp only [Option.map_some, Option.some.injEq] at e
    refine ⟨u, rfl, ?_, ?_, e⟩
    · rw [← clrB_members d u, e, clrB_members]
    · rw [← clrB_pgid d u, e, clrB_pgid]

theorem Rel.symm {d : Nat} {a b : PS} (h : Rel d a b) : Rel d b a :=
  ⟨h.inpg.symm, h.cur.symm, h.next.symm, h.reg.symm, h.ds.symm⟩

theorem Rel.trans {d : Nat} {a b c : PS} (h : Rel d a b) (h' : Rel d b c) : Rel d a c :=
  ⟨h.inpg.trans h'.inpg, h.cur.trans h'.cur, h.next.trans h'.next, h.reg.trans h'.reg, h.ds.trans h'.ds⟩

/-- modifying the same duplication on both sides by a function that does not look at `mrca` -/
theorem Rel.modDup {d : Nat} {a b : PS} (h : Rel d a b) (x : Nat) (f : DupBuild → DupBuild)
    (hf : ∀ u, u.did = x → clrB d (f u) = f (clrB d u)) :
    Rel d (a.modDup x f) (b.modDup x f) := by
  refine ⟨h.inpg, h.cur, h.next, h.reg, ?_⟩
  have key : ∀ l : List DupBuild,
      (l.map fun u => if u.did == x then f u else u).map (clrB d) =
      (l.map (clrB d)).map fun u => if u.did == x then f u else u := by
    intro l
    simp only [List.map_map]
    apply List.map_congr_left
    intro u _
    simp only [Function.comp, clrB_did]
    split
    · rename_i hu; exact hf u (by simpa using hu)
    · rfl
  simp only [PS.modDup]
  rw [key, key, h.ds]

/-- writing the `mrca` of `d` (on either side) is invisible -/
theorem Rel.setm_left {d : Nat} {a b : PS} (h : Rel d a b) (m : Option Taxon) :
    Rel d (a.modDup d (setMr m)) b := by
  refine ⟨h.inpg, h.cur, h.next, h.reg, ?_⟩
  simp only [PS.modDup]
  rw [← h.ds, List.map_map]
  apply List.map_congr_left
  intro u _
  simp only [Function.comp]
  split
  · rename_i hu; exact clrB_setm d u (by simpa using hu) m
  · rfl

/-- after the same `mrca` has been written on both sides the stores agree -/
theorem Rel.setm_eq {d : Nat} {a b : PS} (h : Rel d a b) (m : Option Taxon) :
    (a.modDup d (setMr m)).dstore = (b.modDup d (setMr m)).dstore := by
  have key : ∀ l : List DupBuild,
      (l.map fun u => if u.did == d then setMr m u else u) =
      (l.map (clrB d)).map fun u => if u.did == d then setMr m u else u := by
    intro l
    simp only [List.map_map]
    apply List.map_congr_left
    intro u _
    simp only [Function.comp, clrB_did]
    split
    · rename_i hu
      have : u.did = d := by simpa using hu
      simp [clrB, setMr, this]
    · rename_i hu
      have : u.did ≠ d := by simpa using hu
      rw [clrB_of_ne d u this]
  simp only [PS.modDup]
  rw [key a.dstore, key b.dstore, h.ds]

/-- no node of `kids` is flagged with duplication `d` -/
def NoD (d : Nat) (kids : List Node) : Prop := ∀ k ∈ kids, k.dup ≠ some d

theorem NoD.append {d : Nat} {a b : List Node} (ha : NoD d a) (hb : NoD d b) : NoD d (a ++ b) := by
  intro k hk
  rcases List.mem_append.mp hk with h | h
  · exact ha k h
  · exact hb k h

/-! ### the passes that only use the counter and the registration log -/

def rep (q ps' : PS) : PS := { q with next := ps'.next, reg := ps'.reg }

theorem addMissing_nr (hid : Option String) (ts : List Taxon) (n : Node) (ps : PS) :
    (addMissing hid n ts ps).All fun r => FrA ps r.2 ∧
      ∀ q : PS, q.next = ps.next → q.reg = ps.reg → addMissing hid n ts q = .ok (r.1, rep q r.2) := by
  induction ts generalizing n ps with
  | nil => exact ⟨FrA.refl ps, fun q h1 h2 => by rw [addMissing, rep, ← h1, ← h2]⟩
  | cons t ts ih =>
    rw [addMissing]
    split
    · trivial
    · rename_i hup
      refine (ih _ _).mono fun r hr => ⟨?_, fun q h1 h2 => ?_⟩
      · exact FrA.trans (b := PS.register { ps with next := ps.next + 1 } t (.h ps.next))
          ⟨rfl, rfl, rfl, rfl, Nat.le_succ _⟩ hr.1
      · rw [addMissing, if_neg hup, h1]
        exact hr.2 _ rfl (congrArg (· ++ [(t, Key.h ps.next)]) h2)

theorem rehomeUnder_nr (hid : Option String) (mrcaTx : Taxon) (cs kids mk : List Node) (ps : PS) :
    (rehomeUnder hid mrcaTx cs kids mk ps).All fun r => FrA ps r.2.2 ∧
      ∀ q : PS, q.next = ps.next → q.reg = ps.reg →
        rehomeUnder hid mrcaTx cs kids mk q = .ok (r.1, r.2.1, rep q r.2.2) := by
  induction cs generalizing kids mk ps with
  | nil => exact ⟨FrA.refl ps, fun q h1 h2 => by rw [rehomeUnder, rep, ← h1, ← h2]⟩
  | cons c cs ih =>
    rw [rehomeUnder]
    refine (addMissing_nr _ _ _ ps).bind fun v hv => ?_
    refine (ih _ _ v.2).mono fun r hr => ⟨hv.1.trans hr.1, fun q h1 h2 => ?_⟩
    rw [rehomeUnder, hv.2 q h1 h2]
    exact hr.2 _ rfl rfl

theorem rehomeDirect_nr (hid : Option String) (level : Taxon) (d : Nat) (cs kids : List Node)
    (mem : List Key) (ps : PS) :
    (rehomeDirect hid level d cs kids mem ps).All fun r => FrA ps r.2.2 ∧
      ∀ q : PS, q.next = ps.next → q.reg = ps.reg →
        rehomeDirect hid level d cs kids mem q = .ok (r.1, r.2.1, rep q r.2.2) := by
  induction cs generalizing kids mem ps with
  | nil => exact ⟨FrA.refl ps, fun q h1 h2 => by rw [rehomeDirect, rep, ← h1, ← h2]⟩
  | cons c cs ih =>
    rw [rehomeDirect]
    refine (addMissing_nr _ _ _ ps).bind fun v hv => ?_
    obtain ⟨top, ps1⟩ := v
    simp only
    split
    · trivial
    · rename_i hc
      refine (ih _ _ ps1).mono fun r hr => ⟨hv.1.trans hr.1, fun q h1 h2 => ?_⟩
      rw [rehomeDirect, hv.2 q h1 h2]
      exact (if_neg hc).trans (hr.2 _ rfl rfl)

theorem genericPass_nr (hid : Option String) (level : Taxon) (cs kids : List Node) (ps : PS) :
    (genericPass hid level cs kids ps).All fun r => FrA ps r.2 ∧
      ∀ q : PS, q.next = ps.next → q.reg = ps.reg → genericPass hid level cs kids q = .ok (r.1, rep q r.2) := by
  induction cs generalizing kids ps with
  | nil => exact ⟨FrA.refl ps, fun q h1 h2 => by rw [genericPass, rep, ← h1, ← h2]⟩
  | cons c cs ih =>
    rw [genericPass]
    refine (addMissing_nr _ _ _ ps).bind fun v hv => ?_
    refine (ih _ v.2).mono fun r hr => ⟨hv.1.trans hr.1, fun q h1 h2 => ?_⟩
    rw [genericPass, hv.2 q h1 h2]
    exact hr.2 _ rfl rfl

/-! ### closing an orthologGroup -/

theorem liftLevel_rel {d : Nat} {a b : PS} (hr : Rel d a b) (kids : List Node) (lv : Taxon)
    (hn : NoD d kids) : liftLevel a kids lv = liftLevel b kids lv := by
  induction kids generalizing lv with
  | nil => rfl
  | cons k ks ih =>
    have hn' : NoD d ks := fun k' hk' => hn k' (List.mem_cons_of_mem _ hk')
    simp only [liftLevel]
    cases hk : k.dup with
    | none =>
      simp only []
      exact ih lv hn'
    | some x =>
      have hx : x ≠ d := fun e => hn k (List.mem_cons_self ..) (by rw [hk, e])
      simp only [hr.getDup_ne hx]
      split
      · rfl
      · split
        · rfl
        · exact ih _ hn'

theorem eq_rep_of_frA {ps ps' : PS} (h : FrA ps ps') : ps' = rep ps ps' := by
  obtain ⟨h1, h2, h3, h4, _⟩ := h
  cases ps; cases ps'
  simp only at h1 h2 h3 h4
  subst h1 h2 h3 h4
  rfl

theorem getDup_modDup_ne (ps : PS) (x y : Nat) (f : DupBuild → DupBuild) (hf : ∀ u, (f u).did = u.did)
    (hxy : x ≠ y) : (ps.modDup x f).getDup y = ps.getDup y := by
  simp only [PS.getDup, PS.modDup]
  induction ps.dstore with
  | nil => rfl
  | cons u us ih =>
    have hg : (if u.did == x then f u else u).did = u.did := by
      split
      · exact hf u
      · rfl
    simp only [List.map_cons, List.find?_cons, hg]
    cases hy : u.did == y with
    | true =>
      have hy' : u.did = y := by simpa using hy
      have : (u.did == x) = false := by
        simp only [beq_eq_false_iff_ne, ne_eq]; rw [hy']; exact fun e => hxy e.symm
      simp only [this, Bool.false_eq_true, if_false]
    | false => exact ih

theorem Rel.rep {d : Nat} {a b : PS} (h : Rel d a b) (p : PS) : Rel d (rep a p) (rep b p) :=
  ⟨h.inpg, h.cur, rfl, rfl, h.ds⟩

theorem rel_after_nr {d x : Nat} {q0 p0 p1 : PS} (hr : Rel d q0 p0) (f : FrA p0 p1) (hx : x ≠ d) (X : List Key) :
    Rel d ((rep q0 p1).modDup x (setMem X)) (p1.modDup x (setMem X)) ∧
      (p1.modDup x (setMem X)).getDup d = p0.getDup d := by
  have r1 : Rel d (rep q0 p1) p1 := by
    have := hr.rep p1
    rwa [← eq_rep_of_frA f] at this
  refine ⟨r1.modDup x _ (fun u _ => clrB_setMem d X u), (getDup_modDup_ne _ _ _ _ (setMem_did X) hx).trans ?_⟩
  unfold PS.getDup
  rw [f.dstore]

theorem sim_dupUnder {d : Nat} (hid : Option String) (kids : List Node) (dups : List DupRec) (a b : PS)
    (x : Nat) (bx : DupBuild) (m : Taxon) (st' : CloseSt) (hr : Rel d a b) (hx : x ≠ d)
    (h : dupUnder hid ⟨kids, dups, b⟩ x bx m = .ok st') :
    ∃ a', dupUnder hid ⟨kids, dups, a⟩ x bx m = .ok ⟨st'.kids, st'.dups, a'⟩ ∧ Rel d a' st'.ps ∧
      st'.ps.getDup d = b.getDup d := by
  unfold dupUnder at h ⊢
  obtain ⟨v, hv, h⟩ := bind_ok h
  cases h
  obtain ⟨i1, i2⟩ := (rehomeUnder_nr _ _ _ _ _ _).of_eq hv
  have rt : Rel d (PS.register { a with next := b.next + 1 } m (.h b.next))
      (PS.register { b with next := b.next + 1 } m (.h b.next)) :=
    ⟨hr.inpg, hr.cur, rfl, congrArg (· ++ [(m, Key.h b.next)]) hr.reg, hr.ds⟩
  simp only [hr.next]
  rw [i2 (PS.register { a with next := b.next + 1 } m (.h b.next)) rfl rt.reg]
  exact ⟨_, rfl, rel_after_nr rt i1 hx _⟩

theorem sim_dupDirect {d : Nat} (hid : Option String) (level : Taxon) (kids : List Node) (dups : List DupRec)
    (a b : PS) (x : Nat) (bx : DupBuild) (m : Taxon) (st' : CloseSt) (hr : Rel d a b) (hx : x ≠ d)
    (h : dupDirect hid level ⟨kids, dups, b⟩ x bx m = .ok st') :
    ∃ a', dupDirect hid level ⟨kids, dups, a⟩ x bx m = .ok ⟨st'.kids, st'.dups, a'⟩ ∧ Rel d a' st'.ps ∧
      st'.ps.getDup d = b.getDup d := by
  unfold dupDirect at h ⊢
  obtain ⟨v, hv, h⟩ := bind_ok h
  cases h
  obtain ⟨i1, i2⟩ := (rehomeDirect_nr _ _ _ _ _ _ _).of_eq hv
  rw [i2 a hr.next hr.reg]
  exact ⟨_, rfl, rel_after_nr hr i1 hx _⟩

theorem sim_dupStep {d : Nat} (hid : Option String) (level : Taxon) (kids : List Node) (dups : List DupRec)
    (a b : PS) (x : Nat) (st' : CloseSt) (hr : Rel d a b) (hx : x ≠ d)
    (h : dupStep hid level ⟨kids, dups, b⟩ x = .ok st') :
    ∃ a', dupStep hid level ⟨kids, dups, a⟩ x = .ok ⟨st'.kids, st'.dups, a'⟩ ∧ Rel d a' st'.ps ∧
      st'.ps.getDup d = b.getDup d := by
  simp only [dupStep_eq] at h ⊢
  rw [hr.getDup_ne hx]
  cases hgd : b.getDup x with
  | none =>
    rw [hgd] at h
    cases h
  | some bx =>
    rw [hgd] at h
    simp only at h ⊢
    cases hm : bx.mrca with
    | none =>
      rw [hm] at h
      cases h
    | some m =>
      rw [hm] at h
      simp only at h ⊢
      split at h
      · cases h
      · rename_i hs
        rw [if_neg hs]
        split at h
        · rename_i hl
          rw [if_pos hl]
          exact sim_dupUnder hid kids dups a b x bx m st' hr hx h
        · rename_i hl
          rw [if_neg hl]
          exact sim_dupDirect hid level kids dups a b x bx m st' hr hx h

theorem sim_dupSteps {d : Nat} (hid : Option String) (level : Taxon) (ds : List Nat)
    (kids : List Node) (dups : List DupRec) (a b : PS) (st' : CloseSt) (hr : Rel d a b)
    (hx : ∀ x ∈ ds, x ≠ d) (h : dupSteps hid level ds ⟨kids, dups, b⟩ = .ok st') :
    ∃ a', dupSteps hid level ds ⟨kids, dups, a⟩ = .ok ⟨st'.kids, st'.dups, a'⟩ ∧ Rel d a' st'.ps ∧
      st'.ps.getDup d = b.getDup d := by
  induction ds generalizing kids dups a b with
  | nil =>
    rw [dupSteps] at h
    cases h
    exact ⟨a, rfl, hr, rfl⟩
  | cons x ds ih =>
    rw [dupSteps] at h
    obtain ⟨st1, h1, h⟩ := bind_ok h
    obtain ⟨a1, e1, r1, g1⟩ := sim_dupStep hid level kids dups a b x st1 hr (hx x (List.mem_cons_self ..)) h1
    obtain ⟨a2, e2, r2, g2⟩ := ih st1.kids st1.dups a1 st1.ps r1 (fun y hy => hx y (List.mem_cons_of_mem _ hy)) h
    refine ⟨a2, ?_, r2, g2.trans g1⟩
    rw [dupSteps, e1]
    exact e2

/-- no TaxRange property so far: closing cannot collapse the group into its parent -/
def TRnone (hb : HogBuild) : Prop := hb.info.props.lookup "TaxRange" = none

theorem inferLevel_noTR (env : Env) (hb : HogBuild) (ht : TRnone hb) :
    (inferLevel env hb).All fun lv => ∃ t, lv = .at t := by
  unfold TRnone at ht
  unfold inferLevel
  rw [ht]
  split
  · simp only [Bool.false_eq_true, if_false]
    split
    · trivial
    · exact ⟨_, rfl⟩
  · trivial
  · exact ⟨_, rfl⟩

theorem mem_dupGroups {kids : List Node} {x : Nat} (h : x ∈ dupGroups kids) : ∃ k ∈ kids, k.dup = some x := by
  unfold dupGroups at h
  rw [mem_dedup] at h
  simpa [List.mem_filterMap] using h

theorem closeOg_fr (env : Env) (top : Bool) (hb : HogBuild) (ps : PS) (ht : TRnone hb) :
    (closeOg env top hb ps).All fun r =>
      FrC ps r.2 ∧ ∃ level kids dups, r.1 = [Node.hog hb.info level hb.dup kids dups] := by
  rw [closeOg_eq]
  refine (inferLevel_noTR env hb ht).bind fun lv hlv => ?_
  obtain ⟨lv0, rfl⟩ := hlv
  refine Except.all_true.bind fun level _ => ?_
  refine (keep_dupSteps _ level _ _).bind fun st f1 => ?_
  refine (genericPass_nr _ level _ st.kids st.ps).bind fun r hr => ?_
  have f0 : FrC ps (ps.register level (.h hb.info.uid)) := ⟨rfl, rfl, rfl, Nat.le_refl _, rfl⟩
  exact ⟨(f0.trans f1).trans hr.1.toFrC, _, _, _, rfl⟩

theorem sim_closeOg {d : Nat} (env : Env) (top : Bool) (hb : HogBuild) (a b : PS) (res : List Node) (b' : PS)
    (hr : Rel d a b) (hn : NoD d hb.kids) (ht : TRnone hb)
    (h : closeOg env top hb b = .ok (res, b')) :
    ∃ a', closeOg env top hb a = .ok (res, a') ∧ Rel d a' b' ∧ b'.getDup d = b.getDup d := by
  rw [closeOg_eq] at h ⊢
  obtain ⟨lv, hlv, h⟩ := bind_ok h
  obtain ⟨lv0, rfl⟩ := (inferLevel_noTR env hb ht).of_eq hlv
  obtain ⟨level, hl, h⟩ := bind_ok h
  obtain ⟨st, hst, h⟩ := bind_ok h
  obtain ⟨⟨kids, ps2⟩, hg, h⟩ := bind_ok h
  cases h
  have hr1 : Rel d (a.register level (.h hb.info.uid)) (b.register level (.h hb.info.uid)) :=
    ⟨hr.inpg, hr.cur, hr.next, by simp only [PS.register]; rw [hr.reg], hr.ds⟩
  obtain ⟨a2, e2, r2, g2⟩ := sim_dupSteps hb.info.hid level (dupGroups hb.kids) hb.kids [] _ _ st hr1
    (fun x hx => by
      obtain ⟨k, hk, hkd⟩ := mem_dupGroups hx
      intro e; exact hn k hk (by rw [hkd, e])) hst
  obtain ⟨i1, i2⟩ := (genericPass_nr _ _ _ _ _).of_eq hg
  refine ⟨rep a2 b', ?_, ?_, ?_⟩
  · rw [hlv]
    show (liftLevel a hb.kids lv0).bind _ = _
    rw [liftLevel_rel hr hb.kids lv0 hn, hl]
    show (dupSteps _ _ _ _).bind _ = _
    rw [e2]
    show (genericPass _ _ _ _ _).bind _ = _
    rw [i2 a2 r2.next r2.reg]
    rfl
  · have := r2.rep b'
    rw [← eq_rep_of_frA i1] at this
    exact this
  · have : b'.getDup d = st.ps.getDup d := by unfold PS.getDup; rw [i1.dstore]
    rw [this, g2]; rfl

/-! ### MRCA of a part of the members -/

/-- the taxa of the members `M`, looked up among `kids` (the first thing `set_MRCA` computes) -/
def memTaxa (kids : List Node) (M : List Key) : Option (List Taxon) :=
  M.mapM (fun k => (findKey k kids).map Node.tx)

/-- `set_MRCA` on these taxa: the parent of their MRCA, `none` where the code raises -/
def mrcaOf (taxa : List Taxon) : Option Taxon :=
  match dedup taxa with
  | [] => none
  | [t] => t.up
  | ts => (mrca ts).up

/-- non-empty with a common suffix other than the root: exactly when `mrcaOf` is defined -/
def taxaOk (taxa : List Taxon) : Prop := taxa ≠ [] ∧ ∃ c : Taxon, c ≠ [] ∧ ∀ t ∈ taxa, c <:+ t

theorem mrcaOf_of_ok (taxa : List Taxon) (h : taxaOk taxa) : ∃ u, mrcaOf taxa = some u := by
  obtain ⟨hne, c, hc, hall⟩ := h
  unfold mrcaOf
  have hd := dedup_ne_nil taxa hne
  split
  · rename_i e; exact absurd e hd
  · rename_i t e
    have : t ∈ taxa := by rw [← mem_dedup, e]; simp
    exact up_isSome_of_suffix hc (hall t this)
  · rename_i ts _ _
    have : c <:+ mrca (dedup taxa) := mrca_greatest c _ hd (fun t ht => hall t ((mem_dedup t taxa).mp ht))
    exact up_isSome_of_suffix hc this

theorem ok_of_mrcaOf (taxa : List Taxon) (u : Taxon) (h : mrcaOf taxa = some u) : taxaOk taxa := by
  unfold mrcaOf at h
  split at h
  · cases h
  · rename_i t e
    have hne : taxa ≠ [] := by intro e'; rw [e'] at e; simp [dedup] at e
    refine ⟨hne, t, ?_, ?_⟩
    · intro e'; rw [e'] at h; cases h
    · intro t' ht'
      have : t' ∈ dedup taxa := (mem_dedup t' taxa).mpr ht'
      rw [e] at this
      simp only [List.mem_singleton] at this
      rw [this]; exact List.suffix_refl _
  · rename_i ts _ _
    have hne : taxa ≠ [] := by
      intro e'; rw [e'] at h; simp [dedup, mrca, Taxon.up] at h
    refine ⟨hne, mrca (dedup taxa), ?_, ?_⟩
    · intro e'; rw [e'] at h; cases h
    · intro t' ht'
      exact mrca_suffix_mem _ t' ((mem_dedup t' taxa).mpr ht')

theorem setMRCA_eval (kids : List Node) (ps : PS) (x : Nat) (bx : DupBuild) (taxa : List Taxon)
    (h1 : ps.getDup x = some bx) (h2 : memTaxa kids bx.members = some taxa) :
    setMRCA kids ps x =
      match mrcaOf taxa with
      | some u => .ok (ps.modDup x (setMr (some u)))
      | none => (match dedup taxa with | [] => .error .index | _ => .error .attr) := by
  unfold memTaxa at h2
  simp only [setMRCA, h1, h2, mrcaOf]
  generalize dedup taxa = L
  rcases L with _ | ⟨t, _ | ⟨t2, ts⟩⟩
  · rfl
  · simp only []
    cases ht : t.up with
    | none => rfl
    | some u => rfl
  · simp only []
    cases ht : (mrca (t :: t2 :: ts)).up with
    | none => rfl
    | some u => rfl

theorem setMRCA_good (kids : List Node) (ps : PS) (x : Nat) (ps' : PS) (h : setMRCA kids ps x = .ok ps') :
    ∃ bx taxa u, ps.getDup x = some bx ∧ memTaxa kids bx.members = some taxa ∧ mrcaOf taxa = some u ∧
      ps' = ps.modDup x (setMr (some u)) := by
  cases h1 : ps.getDup x with
  | none => simp [setMRCA, h1] at h
  | some bx =>
    cases h2 : memTaxa kids bx.members with
    | none => unfold memTaxa at h2; simp [setMRCA, h1, h2] at h
    | some taxa =>
      rw [setMRCA_eval kids ps x bx taxa h1 h2] at h
      cases h3 : mrcaOf taxa with
      | none => rw [h3] at h; simp only at h; split at h <;> cases h
      | some u =>
        rw [h3] at h
        simp only [Except.ok.injEq] at h
        exact ⟨bx, taxa, u, rfl, h2, h3, h.symm⟩

theorem findKey_append_of_some (k : Key) (kids K2 : List Node) (h : (findKey k kids).isSome) :
    findKey k (kids ++ K2) = findKey k kids := by
  unfold findKey at *
  rw [List.find?_append]
  cases hf : List.find? (fun x => x.key == k) kids with
  | none => rw [hf] at h; cases h
  | some v => rfl

theorem memTaxa_nil (kids : List Node) : memTaxa kids [] = some [] := rfl

theorem memTaxa_cons (kids : List Node) (k : Key) (M : List Key) :
    memTaxa kids (k :: M) =
      match (findKey k kids).map Node.tx with
      | none => none
      | some t => match memTaxa kids M with
        | none => none
        | some ts => some (t :: ts) := by
  simp only [memTaxa, List.mapM_cons]
  cases (findKey k kids).map Node.tx with
  | none => rfl
  | some t =>
    simp only [Option.bind_eq_bind, Option.bind_some]
    cases List.mapM (fun k => Option.map Node.tx (findKey k kids)) M with
    | none => rfl
    | some ts => rfl

theorem memTaxa_part (kids K2 : List Node) (M2 : List Key) (M : List Key) (taxa : List Taxon)
    (h : memTaxa (kids ++ K2) (M ++ M2) = some taxa) (hm : ∀ k ∈ M, (findKey k kids).isSome) :
    ∃ t1 t2, taxa = t1 ++ t2 ∧ memTaxa kids M = some t1 ∧ (M ≠ [] → t1 ≠ []) := by
  induction M generalizing taxa with
  | nil => exact ⟨[], taxa, rfl, rfl, fun h => absurd rfl h⟩
  | cons k M ih =>
    rw [List.cons_append, memTaxa_cons] at h
    rw [findKey_append_of_some k kids K2 (hm k (List.mem_cons_self ..))] at h
    rw [memTaxa_cons]
    cases hk : (findKey k kids).map Node.tx with
    | none => rw [hk] at h; cases h
    | some t =>
      rw [hk] at h
      simp only at h ⊢
      cases hr : memTaxa (kids ++ K2) (M ++ M2) with
      | none => rw [hr] at h; cases h
      | some ts =>
        rw [hr] at h
        simp only [Option.some.injEq] at h
        obtain ⟨t1, t2, e1, e2, _⟩ := ih ts hr (fun k' hk' => hm k' (List.mem_cons_of_mem _ hk'))
        refine ⟨t :: t1, t2, ?_, ?_, fun _ => by simp⟩
        · rw [← h, e1]; rfl
        · rw [e2]

/-! ### opening and closing a paralogGroup -/

def closed (ps : PS) (fs : List PFrame) (x : Nat) (u : Taxon) : PS :=
  { (({ ps with pstack := fs } : PS).modDup x (setMr (some u))) with
      inPG := fs.head?.map (·.depth), cur := fs.head?.map (·.did) }

theorem pgClose_elim (kids : List Node) (ps ps' : PS) (h : pgClose kids ps = .ok ps') :
    ∃ f fs bx taxa u, ps.pstack = f :: fs ∧ ps.getDup f.did = some bx ∧ bx.members.length ≠ f.size ∧
      memTaxa kids bx.members = some taxa ∧ mrcaOf taxa = some u ∧ ps' = closed ps fs f.did u := by
  simp only [pgClose, bind, Except.bind] at h
  split at h
  · cases h
  · rename_i f fs hst
    split at h
    · rename_i bx hgd
      split at h
      · cases h
      · rename_i hlen
        split at h
        · cases h
        · rename_i v hv
          obtain ⟨bx', taxa, u, g1, g2, g3, g4⟩ := setMRCA_good _ _ _ _ hv
          have : bx' = bx := by
            have : ps.getDup f.did = some bx' := g1
            rw [hgd] at this; exact (Option.some.inj this).symm
          subst this
          refine ⟨f, fs, bx', taxa, u, hst, hgd, by simpa using hlen, g2, g3, ?_⟩
          subst g4
          cases fs with
          | nil => simp only [Except.ok.injEq] at h; rw [← h]; rfl
          | cons g gs => simp only [Except.ok.injEq] at h; rw [← h]; rfl
    · cases h

theorem pgClose_intro (kids : List Node) (ps : PS) (f : PFrame) (fs : List PFrame) (bx : DupBuild)
    (taxa : List Taxon) (u : Taxon) (hst : ps.pstack = f :: fs) (hgd : ps.getDup f.did = some bx)
    (hlen : bx.members.length ≠ f.size) (hm : memTaxa kids bx.members = some taxa)
    (hu : mrcaOf taxa = some u) : pgClose kids ps = .ok (closed ps fs f.did u) := by
  have hgd' : ({ ps with pstack := fs } : PS).getDup f.did = some bx := hgd
  have e := setMRCA_eval kids { ps with pstack := fs } f.did bx taxa hgd' hm
  rw [hu] at e
  simp only at e
  have hl : (bx.members.length == f.size) = false := by simpa using hlen
  simp only [pgClose, hst, bind, Except.bind, hgd, hl, e]
  cases fs with
  | nil => rfl
  | cons g gs => rfl

/-- the state after `pgOpen` chose duplication `did` at depth `l` -/
def pushed (ps : PS) (l did : Nat) : PS :=
  { ps with pstack := { depth := l, did := did,
                        size := (match ps.getDup did with | some b => b.members.length | none => 0) } :: ps.pstack,
            inPG := some l, cur := some did }

theorem pgOpen_reuse (l : Nat) (x : Option String) (ps : PS) (f : PFrame) (fs : List PFrame)
    (hst : ps.pstack = f :: fs) (hd : f.depth = l) : pgOpen l x ps = pushed ps l f.did := by
  simp only [pgOpen, hst, hd, beq_self_eq_true, if_true, pushed]
  rfl

theorem pgOpen_new (l : Nat) (x : Option String) (ps : PS)
    (h : ∀ f fs, ps.pstack = f :: fs → f.depth ≠ l) :
    pgOpen l x ps = pushed (newDup ps x).2 l ps.next := by
  cases hst : ps.pstack with
  | nil => simp only [pgOpen, hst, pushed, newDup]; rfl
  | cons f fs =>
    have : (f.depth == l) = false := by simpa using h f fs hst
    simp only [pgOpen, hst, this, pushed, newDup, Bool.false_eq_true, if_false]
    rfl

theorem Rel.pushed {d : Nat} {a b : PS} (h : Rel d a b) (l did : Nat) :
    Rel d (pushed a l did) (pushed b l did) ∧
    ∃ g : PFrame, g.depth = l ∧ g.did = did ∧ (pushed a l did).pstack = g :: a.pstack ∧
      (pushed b l did).pstack = g :: b.pstack := by
  refine ⟨⟨rfl, rfl, h.next, h.reg, h.ds⟩, ⟨l, did, _⟩, rfl, rfl, ?_, rfl⟩
  have size : ∀ o : Option DupBuild, (match o.map (clrB d) with | some b => b.members.length | none => 0) =
      match o with | some b => b.members.length | none => 0 := by
    intro o
    cases o with
    | none => rfl
    | some u => exact congrArg List.length (clrB_members d u)
  simp only [NP.pushed]
  rw [← size (a.getDup did), ← size (b.getDup did), h.getDup]

theorem Rel.newDup {d : Nat} {a b : PS} (h : Rel d a b) (x : Option String) :
    Rel d (newDup a x).2 (newDup b x).2 := by
  refine ⟨h.inpg, h.cur, ?_, h.reg, ?_⟩
  · simp only [Pyham.newDup, h.next]
  · simp only [Pyham.newDup, List.map_append, h.ds, h.next]

/-- opening an orthologGroup, its items, closing it -/
def ogRun (env : Env) (top : Bool) (len : Nat) (hid og : Option String) (its : List Elem) (ps : PS) :
    Except Err (List Node × PS) :=
  (elems env (len + 1) its { info := newInfo ps.next hid og, dup := (ogStart len ps).1, kids := [] }
    (ogStart len ps).2).bind fun r => closeOg env top r.1 r.2

theorem elem_og_run (env : Env) (len : Nat) (hid og : Option String) (its : List Elem) (hb : HogBuild) (ps : PS) :
    elem env len (.og hid og its) hb ps =
      (ogRun env false len hid og its ps).bind fun r => .ok ({ hb with kids := hb.kids ++ r.1 }, r.2) := by
  rw [elem_og]
  exact (bind_bind _ _ _).symm

theorem newMember_flag (l : Nat) (k : Key) (ps : PS) :
    (newMember l k ps).1 = if ps.inPG == some l then ps.cur else none := rfl

theorem newMember_cases (l : Nat) (k : Key) (ps : PS) :
    ((newMember l k ps).1 = none ∧ (newMember l k ps).2 = ps) ∨
    ∃ x, (newMember l k ps).1 = some x ∧ (newMember l k ps).2 = ps.addMember x k := by
  unfold newMember
  cases (if ps.inPG == some l then ps.cur else none) with
  | none => exact Or.inl ⟨rfl, rfl⟩
  | some x => exact Or.inr ⟨x, rfl, rfl⟩

/-- `in_paralogGroup` / `paralogyNode` describe the innermost open paralogGroup -/
def Sync (ps : PS) : Prop :=
  ps.inPG = ps.pstack.head?.map (·.depth) ∧ ps.cur = ps.pstack.head?.map (·.did)

/-- what survives a whole item, paralogGroups included (they change `inPG` and `cur`, so `FrC` is too strong) -/
structure Gen (ps ps' : PS) : Prop where
  pstack : ps'.pstack = ps.pstack
  next : ps.next ≤ ps'.next
  fresh : ps.Fresh → ps'.Fresh
  sync : Sync ps → Sync ps'

theorem Gen.refl (ps : PS) : Gen ps ps := ⟨rfl, Nat.le_refl _, id, id⟩
theorem Gen.trans {a b c : PS} (h1 : Gen a b) (h2 : Gen b c) : Gen a c :=
  ⟨h2.pstack.trans h1.pstack, Nat.le_trans h1.next h2.next, fun h => h2.fresh (h1.fresh h),
    fun h => h2.sync (h1.sync h)⟩

theorem sync_of_eq {a b : PS} (h1 : b.pstack = a.pstack) (h2 : b.inPG = a.inPG) (h3 : b.cur = a.cur)
    (h : Sync a) : Sync b := by
  unfold Sync at *
  rw [h1, h2, h3]
  exact h

theorem fresh_of_dids {ps ps' : PS} (hd : ps'.dstore.map (·.did) = ps.dstore.map (·.did))
    (hn : ps.next ≤ ps'.next) (h : ps.Fresh) : ps'.Fresh := by
  intro b hb
  have : b.did ∈ ps'.dstore.map (·.did) := List.mem_map_of_mem hb
  rw [hd] at this
  obtain ⟨b0, hb0, e⟩ := List.mem_map.mp this
  have := h b0 hb0
  omega

theorem Gen.of_frC {a b : PS} (h : FrC a b) : Gen a b :=
  ⟨h.pstack, h.next, fresh_of_dids h.dids h.next, sync_of_eq h.pstack h.inpg h.cur⟩

theorem lookup_map_ne (k n v : String) (hn : n ≠ k) (d : List (String × String)) :
    (d.map fun e => if e.1 == n then (n, v) else e).lookup k = d.lookup k := by
  induction d with
  | nil => rfl
  | cons e es ih =>
    obtain ⟨e1, e2⟩ := e
    simp only [List.map_cons]
    by_cases h1 : e1 = n
    · subst h1
      have : (k == e1) = false := by simpa using fun e => hn e.symm
      simp only [beq_self_eq_true, if_true, List.lookup_cons, this]
      exact ih
    · have : (e1 == n) = false := by simpa using h1
      simp only [this, Bool.false_eq_true, if_false, List.lookup_cons]
      cases k == e1 with
      | true => rfl
      | false => exact ih

theorem lookup_append_ne (k n v : String) (hn : n ≠ k) (d : List (String × String)) :
    (d ++ [(n, v)]).lookup k = d.lookup k := by
  induction d with
  | nil =>
    have : (k == n) = false := by simpa using fun e => hn e.symm
    simp [List.lookup, this]
  | cons e es ih =>
    obtain ⟨e1, e2⟩ := e
    simp only [List.cons_append, List.lookup_cons]
    cases k == e1 with
    | true => rfl
    | false => exact ih

theorem lookup_dictSet_ne (k n v : String) (hn : n ≠ k) (d : List (String × String)) :
    (dictSet d n v).lookup k = d.lookup k := by
  unfold dictSet
  split
  · exact lookup_map_ne k n v hn d
  · exact lookup_append_ne k n v hn d

theorem pgOpen_cases (l : Nat) (x : Option String) (ps : PS) :
    (∃ f fs, ps.pstack = f :: fs ∧ f.depth = l ∧ pgOpen l x ps = pushed ps l f.did) ∨
    ((∀ f fs, ps.pstack = f :: fs → f.depth ≠ l) ∧ pgOpen l x ps = pushed (newDup ps x).2 l ps.next) := by
  by_cases hc : ∃ f fs, ps.pstack = f :: fs ∧ f.depth = l
  · obtain ⟨f, fs, h1, h2⟩ := hc
    exact Or.inl ⟨f, fs, h1, h2, pgOpen_reuse l x ps f fs h1 h2⟩
  · have : ∀ f fs, ps.pstack = f :: fs → f.depth ≠ l := fun f fs h1 h2 => hc ⟨f, fs, h1, h2⟩
    exact Or.inr ⟨this, pgOpen_new l x ps this⟩

theorem newDup_fresh (ps : PS) (x : Option String) (h : ps.Fresh) : (newDup ps x).2.Fresh := by
  intro b hb
  simp only [newDup, List.mem_append, List.mem_singleton] at hb ⊢
  rcases hb with hb | rfl
  · have := h b hb; omega
  · simp

theorem pgOpen_gen (l : Nat) (x : Option String) (ps : PS) :
    ∃ g, (pgOpen l x ps).pstack = g :: ps.pstack ∧ ps.next ≤ (pgOpen l x ps).next ∧
      (ps.Fresh → (pgOpen l x ps).Fresh) := by
  rcases pgOpen_cases l x ps with ⟨f, fs, _, _, e⟩ | ⟨_, e⟩
  · rw [e]
    exact ⟨_, rfl, Nat.le_refl _, id⟩
  · rw [e]
    exact ⟨_, rfl, Nat.le_succ _, newDup_fresh ps x⟩

theorem pg_gen {l : Nat} {x : Option String} {ps ps2 ps3 : PS} {kids : List Node}
    (g1 : Gen (pgOpen l x ps) ps2) (hc : pgClose kids ps2 = .ok ps3) : Gen ps ps3 := by
  obtain ⟨g, o1, o2, o3⟩ := pgOpen_gen l x ps
  obtain ⟨f, fs, _, _, u, c1, _, _, _, _, rfl⟩ := pgClose_elim _ _ _ hc
  have hst : f :: fs = g :: ps.pstack := c1.symm.trans (g1.pstack.trans o1)
  refine ⟨(List.cons.inj hst).2, Nat.le_trans o2 g1.next, fun hf => ?_, fun _ => ⟨rfl, rfl⟩⟩
  exact fresh_of_dids (ps := ps2) (modDup_dids _ _ _ (setMr_did _)) (Nat.le_refl _) (g1.fresh (o3 hf))

/-! ### a place of the walk

  `elem`/`elems` inside an open orthologGroup and `topElem`/`topElems` at the top of <groups> treat a
  paralogGroup alike.  They differ in what collects the nodes (`S`, `kids`), in the depth `len`, and in
  which items count as members (`mem`) and which nests are accepted (`ok`, `okIn`). -/

structure Place (S : Type) where
  len : Nat
  kids : S → List Node
  mem : Elem → Bool
  ok : Elem → Bool
  okIn : List Elem → Bool
  one : Elem → S → PS → Except Err (S × PS)
  many : List Elem → S → PS → Except Err (S × PS)

def ogPlace (env : Env) (len : Nat) : Place HogBuild :=
  ⟨len, HogBuild.kids, isMember, nestsOk, nestsOkIn, elem env len, elems env len⟩

namespace Place
variable {S : Type} {P : Place S}

structure Eqs (P : Place S) : Prop where
  many_nil : ∀ s ps, P.many [] s ps = .ok (s, ps)
  many_cons : ∀ e es s ps, P.many (e :: es) s ps = (P.one e s ps).bind fun r => P.many es r.1 r.2
  one_pg : ∀ x its s ps, P.one (.pg x its) s ps =
    (P.many its s (pgOpen P.len x ps)).bind fun r =>
      (pgClose (P.kids r.1) r.2).bind fun ps' => .ok (r.1, ps')

namespace Eqs
variable (E : P.Eqs)
include E

theorem many_ok_cons {e : Elem} {es : List Elem} {s : S} {ps : PS} {r : S × PS}
    (h : P.many (e :: es) s ps = .ok r) :
    ∃ s1 ps1, P.one e s ps = .ok (s1, ps1) ∧ P.many es s1 ps1 = .ok r := by
  rw [E.many_cons] at h
  obtain ⟨v, h1, h2⟩ := bind_ok h
  exact ⟨v.1, v.2, h1, h2⟩

theorem many_cons_of {e : Elem} {es : List Elem} {s s1 : S} {ps ps1 : PS}
    (h : P.one e s ps = .ok (s1, ps1)) : P.many (e :: es) s ps = P.many es s1 ps1 := by
  rw [E.many_cons, h]
  rfl

theorem many_append (es1 es2 : List Elem) (s : S) (ps : PS) :
    P.many (es1 ++ es2) s ps = (P.many es1 s ps).bind fun r => P.many es2 r.1 r.2 := by
  induction es1 generalizing s ps with
  | nil =>
    rw [List.nil_append, E.many_nil]
    rfl
  | cons e es1 ih =>
    rw [List.cons_append, E.many_cons, E.many_cons]
    cases P.one e s ps with
    | error err => rfl
    | ok v => exact ih v.1 v.2

theorem pg_ok {x : Option String} {its : List Elem} {s : S} {ps : PS} {r : S × PS}
    (h : P.one (.pg x its) s ps = .ok r) :
    ∃ ps1, P.many its s (pgOpen P.len x ps) = .ok (r.1, ps1) ∧ pgClose (P.kids r.1) ps1 = .ok r.2 := by
  rw [E.one_pg] at h
  obtain ⟨v, h1, h2⟩ := bind_ok h
  obtain ⟨ps2, h3, h4⟩ := bind_ok h2
  cases h4
  exact ⟨v.2, h1, h3⟩

theorem pg_of {x : Option String} {its : List Elem} {s s1 : S} {ps ps1 ps2 : PS}
    (h1 : P.many its s (pgOpen P.len x ps) = .ok (s1, ps1)) (h2 : pgClose (P.kids s1) ps1 = .ok ps2) :
    P.one (.pg x its) s ps = .ok (s1, ps2) := by
  rw [E.one_pg, h1]
  show (pgClose (P.kids s1) ps1).bind _ = _
  rw [h2]
  rfl

theorem many_gen_of (es : List Elem)
    (hall : ∀ e ∈ es, ∀ (s : S) (ps : PS) (s' : S) (ps' : PS), noTaxRange e = true →
      P.one e s ps = .ok (s', ps') → Gen ps ps') :
    ∀ (s : S) (ps : PS) (s' : S) (ps' : PS), noTaxRangeL es = true → P.many es s ps = .ok (s', ps') →
      Gen ps ps' := by
  induction es with
  | nil =>
    intro s ps s' ps' _ h
    rw [E.many_nil] at h
    cases h
    exact Gen.refl _
  | cons e es ih =>
    intro s ps s' ps' ht h
    simp only [noTaxRangeL, Bool.and_eq_true] at ht
    obtain ⟨s1, ps1, h1, h2⟩ := E.many_ok_cons h
    exact (hall e (List.mem_cons_self ..) s ps s1 ps1 ht.1 h1).trans
      (ih (fun e' he' => hall e' (List.mem_cons_of_mem _ he')) s1 ps1 s' ps' ht.2 h2)

end Eqs
end Place

theorem ogEqs (env : Env) (len : Nat) : (ogPlace env len).Eqs where
  many_nil _ _ := by
    show elems env len [] _ _ = _
    rw [elems]
  many_cons _ _ _ _ := elems_cons
  one_pg _ _ _ _ := elem_pg

theorem addMember_dids (ps : PS) (x : Nat) (k : Key) :
    (ps.addMember x k).dstore.map (·.did) = ps.dstore.map (·.did) :=
  modDup_dids _ _ _ (fun _ => rfl)

theorem newMember_fr (l : Nat) (k : Key) (ps : PS) : FrC ps (newMember l k ps).2 := by
  rcases newMember_cases l k ps with ⟨_, e⟩ | ⟨x, _, e⟩
  · rw [e]
    exact FrC.refl _
  · rw [e]
    exact ⟨rfl, rfl, rfl, Nat.le_refl _, addMember_dids _ _ _⟩

theorem newMember_of_flag {l d : Nat} {k : Key} {ps : PS} (h : (newMember l k ps).1 = some d) :
    (newMember l k ps).2 = ps.addMember d k := by
  rcases newMember_cases l k ps with ⟨h', _⟩ | ⟨x, h', e⟩
  · rw [h'] at h
    cases h
  · rw [h'] at h
    cases h
    exact e

theorem ogStart_fr (l : Nat) (ps : PS) : FrC ps (ogStart l ps).2 := by
  have h0 : FrC ps { ps with next := ps.next + 1 } := ⟨rfl, rfl, rfl, Nat.le_succ _, rfl⟩
  exact h0.trans (newMember_fr l _ _)

structure HbKeep (hb hb' : HogBuild) : Prop where
  tr : TRnone hb → TRnone hb'
  dup : hb'.dup = hb.dup
  uid : hb'.info.uid = hb.info.uid

theorem HbKeep.refl (hb : HogBuild) : HbKeep hb hb := ⟨fun h => h, rfl, rfl⟩
theorem HbKeep.trans {a b c : HogBuild} (h1 : HbKeep a b) (h2 : HbKeep b c) : HbKeep a c :=
  ⟨fun h => h2.tr (h1.tr h), h2.dup.trans h1.dup, h2.uid.trans h1.uid⟩

def GenAt (env : Env) (e : Elem) : Prop :=
  ∀ (len : Nat) (hb : HogBuild) (ps : PS) (hb' : HogBuild) (ps' : PS), noTaxRange e = true →
    elem env len e hb ps = .ok (hb', ps') → Gen ps ps' ∧ HbKeep hb hb'

def GensAt (env : Env) (es : List Elem) : Prop :=
  ∀ (len : Nat) (hb : HogBuild) (ps : PS) (hb' : HogBuild) (ps' : PS), noTaxRangeL es = true →
    elems env len es hb ps = .ok (hb', ps') → Gen ps ps' ∧ HbKeep hb hb'

theorem ogRun_gen (env : Env) (top : Bool) (len : Nat) (hid og : Option String) (its : List Elem) (ps : PS)
    (res : List Node) (ps' : PS) (ih : GensAt env its) (ht : noTaxRangeL its = true)
    (h : ogRun env top len hid og its ps = .ok (res, ps')) :
    Gen ps ps' ∧ ps.next < ps'.next ∧
      ∃ info level kids dups, res = [Node.hog info level (ogStart len ps).1 kids dups] ∧ info.uid = ps.next := by
  obtain ⟨⟨nb, ps2⟩, hv, h⟩ := bind_ok h
  obtain ⟨g1, t1⟩ := ih _ _ _ _ _ ht hv
  obtain ⟨c1, level, kids, dups, hres⟩ :
      FrC ps2 ps' ∧ ∃ level kids dups, res = [Node.hog nb.info level nb.dup kids dups] :=
    (closeOg_fr env top nb ps2 (t1.tr rfl)).of_eq h
  refine ⟨((Gen.of_frC (ogStart_fr len ps)).trans g1).trans (Gen.of_frC c1), ?_, nb.info, level, kids, dups, ?_, ?_⟩
  · have := g1.next
    have := c1.next
    have : ps.next + 1 ≤ (ogStart len ps).2.next :=
      (newMember_fr len (.h ps.next) { ps with next := ps.next + 1 }).next
    omega
  · rw [hres, t1.dup]
  · rw [t1.uid]; rfl

theorem elems_gen_of (env : Env) (es : List Elem) (hall : ∀ e ∈ es, GenAt env e) : GensAt env es := by
  induction es with
  | nil =>
    intro len hb ps hb' ps' _ h
    rw [elems] at h
    cases h
    exact ⟨Gen.refl _, HbKeep.refl _⟩
  | cons e es ih =>
    intro len hb ps hb' ps' hn h
    simp only [noTaxRangeL, Bool.and_eq_true] at hn
    obtain ⟨hb1, ps1, hv, h⟩ := (ogEqs env len).many_ok_cons h
    obtain ⟨g1, t1⟩ := hall e (List.mem_cons_self ..) len hb ps hb1 ps1 hn.1 hv
    obtain ⟨g2, t2⟩ := ih (fun e' he' => hall e' (List.mem_cons_of_mem _ he')) len hb1 ps1 hb' ps' hn.2 h
    exact ⟨g1.trans g2, t1.trans t2⟩

theorem elem_gen (env : Env) (e : Elem) : GenAt env e := by
  induction e using Elem.induct with
  | ref id loft =>
    intro len hb ps hb' ps' _ h
    rw [elem_ref] at h
    split at h
    · cases h
    · cases h
      exact ⟨Gen.of_frC (newMember_fr len _ ps), fun h => h, rfl, rfl⟩
  | score id v =>
    intro len hb ps hb' ps' _ h
    rw [elem] at h
    cases h
    exact ⟨Gen.refl _, fun h => h, rfl, rfl⟩
  | prop n v =>
    intro len hb ps hb' ps' hn h
    rw [elem] at h
    cases h
    refine ⟨Gen.refl _, fun ht => ?_, rfl, rfl⟩
    simp only [noTaxRange, bne_iff_ne, ne_eq] at hn
    exact (lookup_dictSet_ne _ _ _ hn _).trans ht
  | pg pgid its ih =>
    intro len hb ps hb' ps' hn h
    simp only [noTaxRange] at hn
    obtain ⟨ps2, hv, hc⟩ := (ogEqs env len).pg_ok h
    obtain ⟨g1, t1⟩ := elems_gen_of env its ih len hb _ hb' ps2 hn hv
    exact ⟨pg_gen g1 hc, t1⟩
  | og hid og its ih =>
    intro len hb ps hb' ps' hn h
    simp only [noTaxRange] at hn
    rw [elem_og_run] at h
    obtain ⟨⟨res, ps1⟩, hr, h⟩ := bind_ok h
    cases h
    exact ⟨(ogRun_gen env false len hid og its ps res ps1 (elems_gen_of env its ih) hn hr).1,
      fun h => h, rfl, rfl⟩

theorem elems_gen (env : Env) (es : List Elem) : GensAt env es :=
  elems_gen_of env es fun e _ => elem_gen env e

/-! ### simulation: the `mrca` of `d` is neither read nor relevant below the nest -/

/-- depth and duplication of the innermost frame -/
def hd2 (S : List PFrame) : Option (Nat × Nat) := S.head?.map fun f => (f.depth, f.did)

theorem hd2_cons (f : PFrame) (fs : List PFrame) : hd2 (f :: fs) = some (f.depth, f.did) := rfl

theorem hd2_eq_some {A : List PFrame} {p : Nat × Nat} (h : hd2 A = some p) :
    ∃ f fs, A = f :: fs ∧ f.depth = p.1 ∧ f.did = p.2 := by
  cases A with
  | nil => simp [hd2] at h
  | cons f fs =>
    simp only [hd2_cons, Option.some.injEq] at h
    exact ⟨f, fs, rfl, by rw [← h], by rw [← h]⟩

theorem hd2_eq_cons {A : List PFrame} {f : PFrame} {fs : List PFrame} (h : hd2 A = hd2 (f :: fs)) :
    ∃ f' fs', A = f' :: fs' ∧ f'.depth = f.depth ∧ f'.did = f.did :=
  hd2_eq_some h

theorem hd2_heads {A B : List PFrame} (h : hd2 A = hd2 B) :
    A.head?.map (·.depth) = B.head?.map (·.depth) ∧ A.head?.map (·.did) = B.head?.map (·.did) := by
  cases A with
  | nil =>
    cases B with
    | nil => exact ⟨rfl, rfl⟩
    | cons g gs => simp [hd2] at h
  | cons f fs =>
    obtain ⟨f', fs', rfl, h1, h2⟩ := hd2_eq_cons h.symm
    simp [h1, h2]

/-- `d`, the duplication of the nest at depth `len`, is allocated and not in use anywhere deeper than `len` -/
structure Inv (d len : Nat) (b : PS) : Prop where
  lt : d < b.next
  flag : ∀ l, b.inPG = some l → len < l → b.cur ≠ some d
  head : ∀ f fs, b.pstack = f :: fs → len < f.depth → f.did ≠ d

theorem getDup_newDup_ne (ps : PS) (x : Option String) (d : Nat) (h : d ≠ ps.next) :
    (newDup ps x).2.getDup d = ps.getDup d := by
  simp only [newDup, PS.getDup, List.find?_append]
  have : (ps.next == d) = false := by simpa using fun e => h e.symm
  simp [this]

theorem Inv.pushed {d len0 : Nat} {ps : PS} (h : Inv d len0 ps) {did : Nat} (hne : did ≠ d) (l : Nat) :
    Inv d len0 (pushed ps l did) := by
  refine ⟨h.lt, fun _ _ _ e => hne (Option.some.inj e), fun f fs h1 _ => ?_⟩
  rw [← (List.cons.inj h1).1]
  exact hne

theorem sim_pgOpen {d len0 : Nat} (l : Nat) (x : Option String) (a b : PS) (hr : Rel d a b)
    (hh : hd2 a.pstack = hd2 b.pstack) (hi : Inv d len0 b) (hl : len0 < l) :
    ∃ g, Rel d (pgOpen l x a) (pgOpen l x b) ∧ (pgOpen l x a).pstack = g :: a.pstack ∧
      (pgOpen l x b).pstack = g :: b.pstack ∧ g.did ≠ d ∧ Inv d len0 (pgOpen l x b) ∧
      (pgOpen l x b).getDup d = b.getDup d := by
  rcases pgOpen_cases l x b with ⟨f, fs, h1, h2, e⟩ | ⟨h1, e⟩
  · rw [h1] at hh
    obtain ⟨f', fs', ha, hd1, hd2'⟩ := hd2_eq_cons hh
    have ea := pgOpen_reuse l x a f' fs' ha (hd1.trans h2)
    rw [hd2'] at ea
    have hne : f.did ≠ d := hi.head f fs h1 (h2 ▸ hl)
    obtain ⟨r1, g, _, g2, g3, g4⟩ := hr.pushed l f.did
    rw [ea, e]
    exact ⟨g, r1, g3, g4, g2 ▸ hne, hi.pushed hne l, rfl⟩
  · have ha : ∀ f fs, a.pstack = f :: fs → f.depth ≠ l := by
      intro f fs hf
      rw [hf] at hh
      obtain ⟨f', fs', hb, hd1, _⟩ := hd2_eq_cons hh.symm
      rw [← hd1]
      exact h1 f' fs' hb
    have ea := pgOpen_new l x a ha
    rw [hr.next] at ea
    have hne : b.next ≠ d := Nat.ne_of_gt hi.lt
    have hi' : Inv d len0 (newDup b x).2 := ⟨Nat.lt_succ_of_lt hi.lt, hi.flag, hi.head⟩
    obtain ⟨r1, g, _, g2, g3, g4⟩ := (hr.newDup x).pushed l b.next
    rw [ea, e]
    exact ⟨g, r1, g3, g4, g2 ▸ hne, hi'.pushed hne l, getDup_newDup_ne b x d hne.symm⟩

theorem sim_pgClose {d : Nat} (kids : List Node) (a2 b2 b' : PS) (g : PFrame) (A B : List PFrame)
    (hr : Rel d a2 b2) (ha : a2.pstack = g :: A) (hb : b2.pstack = g :: B) (hh : hd2 A = hd2 B)
    (h : pgClose kids b2 = .ok b') :
    ∃ u, b' = closed b2 B g.did u ∧ pgClose kids a2 = .ok (closed a2 A g.did u) ∧
      Rel d (closed a2 A g.did u) (closed b2 B g.did u) := by
  obtain ⟨f, fs, bx, taxa, u, c1, c2, c3, c4, c5, c6⟩ := pgClose_elim _ _ _ h
  rw [hb] at c1
  simp only [List.cons.injEq] at c1
  obtain ⟨rfl, rfl⟩ := c1
  obtain ⟨ax, ha2, hm, _⟩ := hr.getDup_some c2
  refine ⟨u, c6, pgClose_intro kids a2 g A ax taxa u ha ha2 (hm ▸ c3) (hm ▸ c4) c5, ?_⟩
  obtain ⟨e1, e2⟩ := hd2_heads hh
  refine ⟨e1, e2, hr.next, hr.reg, ?_⟩
  by_cases hd : g.did = d
  · rw [hd]
    exact ((hr.setm_left (some u)).symm.setm_left (some u)).symm.ds
  · refine (hr.modDup g.did (setMr (some u)) fun v hv => ?_).ds
    have hv' : v.did ≠ d := hv ▸ hd
    rw [clrB_of_ne d v hv', clrB_of_ne d (setMr (some u) v) hv']

theorem Rel.addMember {d : Nat} {a b : PS} (h : Rel d a b) (x : Nat) (k : Key) :
    Rel d (a.addMember x k) (b.addMember x k) :=
  h.modDup x (addMem k) (fun u _ => clrB_addMem d k u)

theorem Rel.newMember {d : Nat} {a b : PS} (h : Rel d a b) (l : Nat) (k : Key) :
    (Pyham.newMember l k a).1 = (Pyham.newMember l k b).1 ∧
      Rel d (Pyham.newMember l k a).2 (Pyham.newMember l k b).2 := by
  have hf : (Pyham.newMember l k a).1 = (Pyham.newMember l k b).1 := by
    rw [newMember_flag, newMember_flag, h.inpg, h.cur]
  refine ⟨hf, ?_⟩
  rcases newMember_cases l k b with ⟨hb, eb⟩ | ⟨x, hb, eb⟩
  · rcases newMember_cases l k a with ⟨_, ea⟩ | ⟨y, ha, _⟩
    · rw [ea, eb]
      exact h
    · rw [hf, hb] at ha
      cases ha
  · rw [newMember_of_flag (hf.trans hb), eb]
    exact h.addMember _ _

theorem Rel.ogStart {d : Nat} {a b : PS} (h : Rel d a b) (l : Nat) :
    (Pyham.ogStart l a).1 = (Pyham.ogStart l b).1 ∧ Rel d (Pyham.ogStart l a).2 (Pyham.ogStart l b).2 := by
  have hb : Rel d ({ a with next := b.next + 1 } : PS) ({ b with next := b.next + 1 } : PS) :=
    ⟨h.inpg, h.cur, rfl, h.reg, h.ds⟩
  unfold Pyham.ogStart
  rw [h.next]
  exact hb.newMember l _

theorem newMember_getDup_ne {d l : Nat} {k : Key} {ps : PS} (h : (newMember l k ps).1 ≠ some d) :
    (newMember l k ps).2.getDup d = ps.getDup d := by
  rcases newMember_cases l k ps with ⟨_, e⟩ | ⟨x, hx, e⟩
  · rw [e]
  · rw [e]
    exact getDup_modDup_ne ps x d _ (fun _ => rfl) (fun e' => h (by rw [hx, e']))

theorem Inv.fr {d len : Nat} {b b' : PS} (h : Inv d len b) (f : FrC b b') : Inv d len b' :=
  ⟨Nat.lt_of_lt_of_le h.lt f.next, by rw [f.inpg, f.cur]; exact h.flag, by rw [f.pstack]; exact h.head⟩

theorem Inv.flag_ne {d len0 l : Nat} {b : PS} (hi : Inv d len0 b) (hl : len0 < l) (k : Key) :
    (newMember l k b).1 ≠ some d := by
  rw [newMember_flag]
  split
  · rename_i hc
    exact hi.flag l (by simpa using hc) hl
  · exact fun e => by cases e

theorem NoD.single {d : Nat} {n : Node} (h : n.dup ≠ some d) : NoD d [n] := by
  intro k hk
  rw [List.mem_singleton.mp hk]
  exact h

def SimAt (d len0 : Nat) (env : Env) (e : Elem) : Prop :=
  ∀ (l : Nat) (hb : HogBuild) (a b : PS) (hb' : HogBuild) (b' : PS), noTaxRange e = true → len0 < l →
    Rel d a b → hd2 a.pstack = hd2 b.pstack → Inv d len0 b → NoD d hb.kids →
    elem env l e hb b = .ok (hb', b') →
    ∃ a', elem env l e hb a = .ok (hb', a') ∧ Rel d a' b' ∧ Inv d len0 b' ∧ NoD d hb'.kids ∧
      b'.getDup d = b.getDup d

def SimsAt (d len0 : Nat) (env : Env) (es : List Elem) : Prop :=
  ∀ (l : Nat) (hb : HogBuild) (a b : PS) (hb' : HogBuild) (b' : PS), noTaxRangeL es = true → len0 < l →
    Rel d a b → hd2 a.pstack = hd2 b.pstack → Inv d len0 b → NoD d hb.kids →
    elems env l es hb b = .ok (hb', b') →
    ∃ a', elems env l es hb a = .ok (hb', a') ∧ Rel d a' b' ∧ Inv d len0 b' ∧ NoD d hb'.kids ∧
      b'.getDup d = b.getDup d

theorem sim_ogRun {d len0 : Nat} (env : Env) (top : Bool) (l : Nat) (hid og : Option String) (its : List Elem)
    (a b : PS) (res : List Node) (b' : PS)
    (ih : SimsAt d len0 env its) (ihg : GensAt env its) (ht : noTaxRangeL its = true) (hl : len0 < l + 1)
    (hr : Rel d a b) (hh : hd2 a.pstack = hd2 b.pstack) (hi : Inv d len0 b)
    (h : ogRun env top l hid og its b = .ok (res, b')) :
    ∃ a', ogRun env top l hid og its a = .ok (res, a') ∧ Rel d a' b' ∧ Inv d len0 b' ∧
      b'.getDup d = (ogStart l b).2.getDup d := by
  obtain ⟨⟨nb, b2⟩, hv, h⟩ := bind_ok h
  obtain ⟨a2, e2, r2, i2, n2, g2⟩ := ih (l + 1) _ (ogStart l a).2 (ogStart l b).2 nb b2 ht hl (hr.ogStart l).2
    (by rw [(ogStart_fr l a).pstack, (ogStart_fr l b).pstack]; exact hh) (hi.fr (ogStart_fr l b))
    (fun k hk => by cases hk) hv
  have htr : TRnone nb := (ihg _ _ _ _ _ ht hv).2.tr rfl
  obtain ⟨a3, e3, r3, g3⟩ := sim_closeOg env top nb a2 b2 res b' r2 n2 htr h
  have c1 : FrC b2 b' := ((closeOg_fr env top nb b2 htr).of_eq h).1
  refine ⟨a3, ?_, r3, i2.fr c1, g3.trans g2⟩
  unfold ogRun
  rw [(hr.ogStart l).1, hr.next, e2]
  exact e3

theorem closed_getDup_ne (ps : PS) (fs : List PFrame) (x d : Nat) (u : Taxon) (h : x ≠ d) :
    (closed ps fs x u).getDup d = ps.getDup d :=
  getDup_modDup_ne { ps with pstack := fs } x d _ (setMr_did _) h

/-- its duplication is not `d`: a reused frame by `Inv.head`, a new one because `d` is older than the counter -/
theorem sim_pg {d len0 : Nat} (env : Env) (l : Nat) (pgid : Option String) (its : List Elem) (hb : HogBuild)
    (a b : PS) (hb' : HogBuild) (b' : PS)
    (ih : SimsAt d len0 env its) (ihg : GensAt env its) (ht : noTaxRangeL its = true)
    (hl : len0 < l) (hr : Rel d a b) (hh : hd2 a.pstack = hd2 b.pstack) (hi : Inv d len0 b)
    (hn : NoD d hb.kids)
    (h : elem env l (.pg pgid its) hb b = .ok (hb', b')) :
    ∃ a', elem env l (.pg pgid its) hb a = .ok (hb', a') ∧ Rel d a' b' ∧ Inv d len0 b' ∧ NoD d hb'.kids ∧
      b'.getDup d = b.getDup d := by
  obtain ⟨b2, hv, hc⟩ := (ogEqs env l).pg_ok h
  obtain ⟨g, r1, pa, pb, hg, i1, k1⟩ := sim_pgOpen l pgid a b hr hh hi hl
  obtain ⟨a2, e2, r2, i2, n2, k2⟩ := ih l hb _ _ hb' b2 ht hl r1 (by rw [pa, pb]; rfl) i1 hn hv
  have sb : b2.pstack = g :: b.pstack := (ihg _ _ _ _ _ ht hv).1.pstack.trans pb
  have sa : a2.pstack = g :: a.pstack := (ihg _ _ _ _ _ ht e2).1.pstack.trans pa
  obtain ⟨u, c1, c2, c3⟩ := sim_pgClose hb'.kids a2 b2 b' g a.pstack b.pstack r2 sa sb hh hc
  subst c1
  refine ⟨_, (ogEqs env l).pg_of e2 c2, c3, ⟨i2.lt, ?_, hi.head⟩, n2, ?_⟩
  · intro l' h1 h2 e
    cases hst : b.pstack with
    | nil => simp [closed, hst] at h1
    | cons f fs =>
      simp only [closed, hst, List.head?_cons, Option.map_some, Option.some.injEq] at h1 e
      exact hi.head f fs hst (by rw [h1]; exact h2) e
  · rw [closed_getDup_ne _ _ _ _ _ hg, k2]
    exact k1

theorem sim_elems_of {d len0 : Nat} (env : Env) (es : List Elem) (hall : ∀ e ∈ es, SimAt d len0 env e) :
    SimsAt d len0 env es := by
  induction es with
  | nil =>
    intro l hb a b hb' b' _ hl hr hh hi hn h
    rw [elems] at h ⊢
    cases h
    exact ⟨a, rfl, hr, hi, hn, rfl⟩
  | cons e es ih =>
    intro l hb a b hb' b' ht hl hr hh hi hn h
    simp only [noTaxRangeL, Bool.and_eq_true] at ht
    obtain ⟨hb1, b1, hv, h⟩ := (ogEqs env l).many_ok_cons h
    obtain ⟨a1, e1, r1, i1, n1, k1⟩ := hall e (List.mem_cons_self ..) l hb a b hb1 b1 ht.1 hl hr hh hi hn hv
    have pb := (elem_gen env e l hb b hb1 b1 ht.1 hv).1.pstack
    have pa := (elem_gen env e l hb a hb1 a1 ht.1 e1).1.pstack
    obtain ⟨a2, e2, r2, i2, n2, k2⟩ := ih (fun e' he' => hall e' (List.mem_cons_of_mem _ he')) l hb1 a1 b1 hb' b'
      ht.2 hl r1 (by rw [pa, pb]; exact hh) i1 n1 h
    exact ⟨a2, ((ogEqs env l).many_cons_of e1).trans e2, r2, i2, n2, k2.trans k1⟩

theorem sim_elem {d len0 : Nat} (env : Env) : (e : Elem) → (l : Nat) → (hb : HogBuild) → (a b : PS) →
    (hb' : HogBuild) → (b' : PS) → noTaxRange e = true → len0 < l → Rel d a b →
    hd2 a.pstack = hd2 b.pstack → Inv d len0 b → NoD d hb.kids → elem env l e hb b = .ok (hb', b') →
    ∃ a', elem env l e hb a = .ok (hb', a') ∧ Rel d a' b' ∧ Inv d len0 b' ∧ NoD d hb'.kids ∧
      b'.getDup d = b.getDup d := by
  intro e
  show SimAt d len0 env e
  induction e using Elem.induct with
  | ref id loft =>
    intro l hb a b hb' b' _ hl hr hh hi hn h
    rw [elem_ref] at h ⊢
    rw [(hr.newMember l _).1]
    split at h
    · cases h
    · rename_i t ht
      cases h
      have hfl := hi.flag_ne hl (.g id)
      exact ⟨_, rfl, (hr.newMember l _).2, hi.fr (newMember_fr l _ b), hn.append (NoD.single hfl),
        newMember_getDup_ne hfl⟩
  | score id v =>
    intro l hb a b hb' b' _ hl hr hh hi hn h
    rw [elem] at h ⊢
    cases h
    exact ⟨a, rfl, hr, hi, hn, rfl⟩
  | prop n v =>
    intro l hb a b hb' b' _ hl hr hh hi hn h
    rw [elem] at h ⊢
    cases h
    exact ⟨a, rfl, hr, hi, hn, rfl⟩
  | pg pgid its ih =>
    intro l hb a b hb' b' ht hl hr hh hi hn h
    simp only [noTaxRange] at ht
    exact sim_pg env l pgid its hb a b hb' b' (sim_elems_of env its ih) (elems_gen env its) ht hl hr hh hi hn h
  | og hid og its ih =>
    intro l hb a b hb' b' ht hl hr hh hi hn h
    simp only [noTaxRange] at ht
    rw [elem_og_run] at h ⊢
    obtain ⟨⟨res, b1⟩, hrun, h⟩ := bind_ok h
    cases h
    obtain ⟨a1, e1, r1, i1, g1⟩ := sim_ogRun env false l hid og its a b res b1 (sim_elems_of env its ih)
      (elems_gen env its) ht (Nat.lt_succ_of_lt hl) hr hh hi hrun
    obtain ⟨_, _, info, level, kids, dups, hres, _⟩ :=
      ogRun_gen env false l hid og its b res b1 (elems_gen env its) ht hrun
    have hfl : (ogStart l b).1 ≠ some d := hi.flag_ne hl (.h b.next)
    rw [e1]
    refine ⟨a1, rfl, r1, i1, hn.append ?_, g1.trans (newMember_getDup_ne hfl)⟩
    rw [hres]
    exact NoD.single hfl

theorem sim_elems {d len0 : Nat} (env : Env) (es : List Elem) : SimsAt d len0 env es :=
  sim_elems_of env es fun e _ => sim_elem env e

/-! ### one step at the level of the nest -/

/-- at the nest: the innermost frame is `(len, d)`, `d` is current, its members so far are among `kids` -/
structure NInv (d len : Nat) (kids : List Node) (b : PS) : Prop where
  hd : hd2 b.pstack = some (len, d)
  inpg : b.inPG = some len
  cur : b.cur = some d
  lt : d < b.next
  mem : ∃ bx, b.getDup d = some bx ∧ ∀ k ∈ bx.members, (findKey k kids).isSome

theorem NInv.toInv {d len : Nat} {kids : List Node} {b : PS} (h : NInv d len kids b) : Inv d len b := by
  refine ⟨h.lt, ?_, ?_⟩
  · intro l h1 h2
    rw [h.inpg] at h1
    simp only [Option.some.injEq] at h1
    omega
  · intro f fs h1 h2
    have := h.hd
    rw [h1, hd2_cons] at this
    simp only [Option.some.injEq, Prod.mk.injEq] at this
    omega

theorem NInv.sync {d len : Nat} {kids : List Node} {b : PS} (h : NInv d len kids b) : Sync b := by
  obtain ⟨f, fs, h1, h2, h3⟩ := hd2_eq_some h.hd
  unfold Sync
  rw [h.inpg, h.cur, h1]
  simp only [List.head?_cons, Option.map_some, h2, h3]
  exact ⟨trivial, trivial⟩

theorem sync_hd {b : PS} {len d : Nat} (hs : Sync b) (h : hd2 b.pstack = some (len, d)) :
    b.inPG = some len ∧ b.cur = some d := by
  obtain ⟨f, fs, h1, h2, h3⟩ := hd2_eq_some h
  unfold Sync at hs
  rw [h1] at hs
  simp only [List.head?_cons, Option.map_some] at hs
  rw [hs.1, hs.2, h2, h3]
  exact ⟨rfl, rfl⟩

theorem getDup_modDup_self (ps : PS) (x : Nat) (f : DupBuild → DupBuild) (hf : ∀ u, (f u).did = u.did) :
    (ps.modDup x f).getDup x = (ps.getDup x).map f := by
  simp only [PS.getDup, PS.modDup]
  induction ps.dstore with
  | nil => rfl
  | cons u us ih =>
    simp only [List.map_cons, List.find?_cons]
    by_cases hu : u.did = x
    · simp [hu, hf]
    · have : (u.did == x) = false := by simpa using hu
      simp only [this, Bool.false_eq_true, if_false]
      exact ih

def Grow (d : Nat) (b b' : PS) (M2 : List Key) : Prop :=
  ∃ bx bx', b.getDup d = some bx ∧ b'.getDup d = some bx' ∧ bx'.members = bx.members ++ M2

theorem Grow.trans {d : Nat} {b b' b'' : PS} {M M' : List Key} (h1 : Grow d b b' M) (h2 : Grow d b' b'' M') :
    Grow d b b'' (M ++ M') := by
  obtain ⟨x, x', e1, e2, e3⟩ := h1
  obtain ⟨y, y', f1, f2, f3⟩ := h2
  rw [e2] at f1; cases f1
  exact ⟨x, y', e1, f2, by rw [f3, e3, List.append_assoc]⟩

theorem Grow.ne_nil {d : Nat} {b b' : PS} {M : List Key} (g : Grow d b b' M) (hM : M ≠ []) :
    ∀ bx, b'.getDup d = some bx → bx.members ≠ [] := by
  obtain ⟨x, x', _, e2, e3⟩ := g
  intro bx hb e0
  rw [e2] at hb
  cases hb
  rw [e3] at e0
  exact hM (List.append_eq_nil_iff.mp e0).2

/-- from `(kids, b)` to `(kids', b')`: nodes were appended, and members of `d`, at least one if `p` -/
abbrev Ext (d len : Nat) (kids : List Node) (b : PS) (kids' : List Node) (b' : PS) (p : Prop) : Prop :=
  NInv d len kids' b' ∧ ∃ K2 M2, kids' = kids ++ K2 ∧ Grow d b b' M2 ∧ (p → M2 ≠ [])

theorem Ext.refl {d len : Nat} {kids : List Node} {b : PS} {p : Prop} (hi : NInv d len kids b) (hp : ¬ p) :
    Ext d len kids b kids b p := by
  obtain ⟨bx, hbx, _⟩ := hi.mem
  exact ⟨hi, [], [], (List.append_nil _).symm, ⟨bx, bx, hbx, hbx, (List.append_nil _).symm⟩,
    fun h => absurd h hp⟩

theorem Ext.trans {d len : Nat} {k k1 k' : List Node} {b b1 b' : PS} {p q r : Prop}
    (h1 : Ext d len k b k1 b1 p) (h2 : Ext d len k1 b1 k' b' q) (hr : r → p ∨ q) : Ext d len k b k' b' r := by
  obtain ⟨_, K1, M1, k1, g1, m1⟩ := h1
  obtain ⟨i2, K2, M2, k2, g2, m2⟩ := h2
  refine ⟨i2, K1 ++ K2, M1 ++ M2, by rw [k2, k1, List.append_assoc], g1.trans g2, fun h e0 => ?_⟩
  rcases hr h with h | h
  · exact m1 h (List.append_eq_nil_iff.mp e0).1
  · exact m2 h (List.append_eq_nil_iff.mp e0).2

theorem findKey_isSome_of_mem {k : Key} {kids : List Node} {n : Node} (hn : n ∈ kids) (hk : n.key = k) :
    (findKey k kids).isSome := by
  unfold findKey
  rw [List.find?_isSome]
  exact ⟨n, hn, by simp [hk]⟩

theorem addMember_grow (d : Nat) (kids K2 : List Node) (len : Nat) (b b0 b1 : PS) (k : Key) (n : Node)
    (hi : NInv d len kids b) (h0 : b0.getDup d = b.getDup d)
    (h1 : b1.getDup d = (b0.addMember d k).getDup d) (hn : n ∈ K2) (hk : n.key = k) :
    Grow d b b1 [k] ∧ ∃ bx, b1.getDup d = some bx ∧ ∀ k' ∈ bx.members, (findKey k' (kids ++ K2)).isSome := by
  obtain ⟨bx, hbx, hmem⟩ := hi.mem
  have e : b1.getDup d = some (addMem k bx) := by
    rw [h1]
    show (b0.modDup d (addMem k)).getDup d = _
    rw [getDup_modDup_self b0 d (addMem k) (fun _ => rfl), h0, hbx]; rfl
  refine ⟨⟨bx, _, hbx, e, rfl⟩, _, e, ?_⟩
  intro k' hk'
  simp only [addMem, List.mem_append, List.mem_singleton] at hk'
  rcases hk' with hk' | rfl
  · rw [findKey_append_of_some _ _ _ (hmem k' hk')]; exact hmem k' hk'
  · exact findKey_isSome_of_mem (List.mem_append_right _ hn) hk

theorem NInv.flag {d len : Nat} {kids : List Node} {b : PS} (h : NInv d len kids b) (k : Key) :
    (newMember len k b).1 = some d := by
  rw [newMember_flag]
  rw [h.inpg, h.cur]
  simp

theorem nest_ogRun {d len : Nat} {p : Prop} (env : Env) (top : Bool) (hid og : Option String) (its : List Elem)
    (kids : List Node) (a b : PS) (res : List Node) (b' : PS) (ht : noTaxRangeL its = true)
    (hi : NInv d len kids b) (hr : Rel d a b) (hh : hd2 a.pstack = hd2 b.pstack)
    (h : ogRun env top len hid og its b = .ok (res, b')) :
    ∃ a', ogRun env top len hid og its a = .ok (res, a') ∧ Rel d a' b' ∧ hd2 a'.pstack = hd2 b'.pstack ∧
      Ext d len kids b (kids ++ res) b' p := by
  obtain ⟨a', e1, r1, _, g1⟩ := sim_ogRun (d := d) (len0 := len) env top len hid og its a b res b'
    (sim_elems env its) (elems_gen env its) ht (Nat.lt_succ_self len) hr hh hi.toInv h
  obtain ⟨gb, nb, info, level, ks, dups, hres, huid⟩ :=
    ogRun_gen env top len hid og its b res b' (elems_gen env its) ht h
  obtain ⟨ga, _, _⟩ := ogRun_gen env top len hid og its a res a' (elems_gen env its) ht e1
  have hop : (ogStart len b).2 = ({ b with next := b.next + 1 } : PS).addMember d (.h b.next) :=
    newMember_of_flag (ps := { b with next := b.next + 1 }) (hi.flag (.h b.next))
  rw [hop] at g1
  obtain ⟨gr, bx, hbx, hmem⟩ := addMember_grow d kids res len b { b with next := b.next + 1 } b' (.h b.next)
    (Node.hog info level (ogStart len b).1 ks dups) hi rfl g1 (by rw [hres]; exact List.mem_singleton_self _)
    (by simp [Node.key, huid])
  have hd' : hd2 b'.pstack = some (len, d) := by rw [gb.pstack]; exact hi.hd
  obtain ⟨s1, s2⟩ := sync_hd (gb.sync hi.sync) hd'
  refine ⟨a', e1, r1, by rw [ga.pstack, gb.pstack]; exact hh, ⟨hd', s1, s2, ?_, bx, hbx, hmem⟩, res, _, rfl, gr,
    fun _ => by simp⟩
  have := hi.lt; omega

def isPg : Elem → Bool
  | .pg _ _ => true
  | _ => false

theorem nest_elem {d len : Nat} (env : Env) (e : Elem) (hb : HogBuild) (a b : PS) (hb1 : HogBuild) (b1 : PS)
    (hp : isPg e = false) (ht : noTaxRange e = true) (hi : NInv d len hb.kids b) (hr : Rel d a b)
    (hh : hd2 a.pstack = hd2 b.pstack) (h : elem env len e hb b = .ok (hb1, b1)) :
    ∃ a1, elem env len e hb a = .ok (hb1, a1) ∧ Rel d a1 b1 ∧ hd2 a1.pstack = hd2 b1.pstack ∧
      Ext d len hb.kids b hb1.kids b1 (isMember e = true) := by
  cases e with
  | pg x its => cases hp
  | score id v =>
    rw [elem] at h ⊢
    cases h
    exact ⟨a, rfl, hr, hh, Ext.refl hi (fun h => by cases h)⟩
  | prop n v =>
    rw [elem] at h ⊢
    cases h
    exact ⟨a, rfl, hr, hh, Ext.refl hi (fun h => by cases h)⟩
  | ref id loft =>
    have fa : (newMember len (.g id) a).1 = some d := (hr.newMember len _).1.trans (hi.flag _)
    rw [elem_ref, hi.flag, newMember_of_flag (hi.flag _)] at h
    rw [elem_ref, fa, newMember_of_flag fa]
    split at h
    · cases h
    · rename_i t htx
      cases h
      obtain ⟨gr, bx, hbx, hmem⟩ := addMember_grow d hb.kids [Node.gene id t (some d) loft] len b b
        (b.addMember d (.g id)) (.g id) (Node.gene id t (some d) loft) hi rfl rfl
        (List.mem_singleton_self _) rfl
      exact ⟨_, rfl, hr.addMember _ _, hh, ⟨hi.hd, hi.inpg, hi.cur, hi.lt, bx, hbx, hmem⟩, _, _, rfl, gr,
        fun _ => by simp⟩
  | og hid og its =>
    simp only [noTaxRange] at ht
    rw [elem_og_run] at h ⊢
    obtain ⟨⟨res, b'⟩, hrun, h⟩ := bind_ok h
    cases h
    obtain ⟨a', e1, r1, h1, x1⟩ := nest_ogRun env false hid og its hb.kids a b res b' ht hi hr hh hrun
    rw [e1]
    exact ⟨a', rfl, r1, h1, x1⟩

/-! ### static facts about the flattening -/

theorem noTaxRangeL_append : (a b : List Elem) → noTaxRangeL (a ++ b) = (noTaxRangeL a && noTaxRangeL b)
  | [], b => by simp [noTaxRangeL]
  | e :: a, b => by simp [noTaxRangeL, noTaxRangeL_append a b, Bool.and_assoc]

mutual
theorem flatElem_noTR : (e : Elem) → noTaxRange (flatElem e) = noTaxRange e
  | .ref _ _ => rfl
  | .score _ _ => rfl
  | .prop _ _ => rfl
  | .og _ _ its => by simp only [flatElem, noTaxRange]; exact flatItems_noTR its
  | .pg _ its => by simp only [flatElem, noTaxRange]; exact spliceItems_noTR its
theorem flatItems_noTR : (es : List Elem) → noTaxRangeL (flatItems es) = noTaxRangeL es
  | [] => rfl
  | e :: es => by simp only [flatItems, noTaxRangeL, flatElem_noTR e, flatItems_noTR es]
theorem spliceItems_noTR : (es : List Elem) → noTaxRangeL (spliceItems es) = noTaxRangeL es
  | [] => rfl
  | e :: es => by
    cases e with
    | pg _ its =>
      simp only [spliceItems, noTaxRangeL_append, noTaxRangeL, noTaxRange, spliceItems_noTR its,
        spliceItems_noTR es]
    | _ => simp only [spliceItems, noTaxRangeL, flatElem_noTR, spliceItems_noTR es]
end

theorem flatElem_isPg (e : Elem) : isPg (flatElem e) = isPg e := by
  cases e <;> rfl

theorem spliceItems_noPg : (its : List Elem) → ∀ e ∈ spliceItems its, isPg e = false
  | [], e, h => by simp [spliceItems] at h
  | e0 :: es, e, h => by
    cases e0 with
    | pg _ its =>
      simp only [spliceItems, List.mem_append] at h
      rcases h with h | h
      · exact spliceItems_noPg its e h
      · exact spliceItems_noPg es e h
    | _ =>
      simp only [spliceItems, List.mem_cons] at h
      rcases h with rfl | h
      · rfl
      · exact spliceItems_noPg es e h

theorem spliceItems_cons_nonpg (e : Elem) (es : List Elem) (h : isPg e = false) :
    spliceItems (e :: es) = flatElem e :: spliceItems es := by
  cases e with
  | pg _ _ => cases h
  | _ => simp only [spliceItems]

theorem nestsOkIn_cons_nonpg (e : Elem) (es : List Elem) (h : isPg e = false) :
    nestsOkIn (e :: es) = (nestsOk e && nestsOkIn es) := by
  cases e with
  | pg _ _ => cases h
  | _ => simp only [nestsOkIn]

theorem closed_eq {d : Nat} {a b : PS} (hr : Rel d a b) (S : List PFrame) (u : Taxon) :
    closed a S d u = closed b S d u := by
  have e := hr.setm_eq (some u)
  unfold closed
  simp only [PS.modDup] at e ⊢
  rw [hr.next, hr.reg]
  congr 1

theorem getDup_newDup_self (ps : PS) (x : Option String) (hf : ps.Fresh) :
    (newDup ps x).2.getDup ps.next = some { did := ps.next, pgid := x, members := [], mrca := none } := by
  simp only [newDup, PS.getDup, List.find?_append]
  have : List.find? (fun b => b.did == ps.next) ps.dstore = none := by
    rw [List.find?_eq_none]
    intro b hb
    have := hf b hb
    simp only [beq_iff_eq]; omega
  simp [this]

theorem main_ogRun (env : Env) (top : Bool) (len : Nat) (hid og : Option String) (its : List Elem) (ps : PS)
    (r : List Node × PS)
    (ih : ∀ hb ps r, nestsOkL its = true → noTaxRangeL its = true → ps.Fresh →
      (∀ f fs, ps.pstack = f :: fs → f.depth < len + 1) →
      elems env (len + 1) (flatItems its) hb ps = .ok r → elems env (len + 1) its hb ps = .ok r)
    (hn : nestsOkL its = true) (ht : noTaxRangeL its = true)
    (hf : ps.Fresh) (hdp : ∀ f fs, ps.pstack = f :: fs → f.depth ≤ len)
    (h : ogRun env top len hid og (flatItems its) ps = .ok r) : ogRun env top len hid og its ps = .ok r := by
  unfold ogRun at h ⊢
  obtain ⟨v, hv, h⟩ := bind_ok h
  have g0 := ogStart_fr len ps
  rw [ih _ _ v hn ht ((Gen.of_frC g0).fresh hf)
    (fun f fs hst => Nat.lt_succ_of_le (hdp f fs (g0.pstack ▸ hst))) hv]
  exact h

/-! ### splicing a directly nested paralogGroup -/

theorem NInv.depth_le {d len : Nat} {kids : List Node} {b : PS} (h : NInv d len kids b) :
    ∀ f fs, b.pstack = f :: fs → f.depth ≤ len := by
  intro f fs h1
  have := h.hd
  rw [h1, hd2_cons] at this
  simp only [Option.some.injEq, Prod.mk.injEq] at this
  omega

/-- the close of `d` over `kids` will succeed: the taxa of its members are found and `taxaOk` -/
def GoodEnd (d : Nat) (kids : List Node) (b : PS) : Prop :=
  ∃ bx taxa, b.getDup d = some bx ∧ memTaxa kids bx.members = some taxa ∧ taxaOk taxa

theorem GoodEnd.prefix {d len : Nat} {kids kids' : List Node} {b b' : PS} {p : Prop}
    (hi : NInv d len kids b) (hx : Ext d len kids b kids' b' p) (hg : GoodEnd d kids' b')
    (hne : ∀ bx, b.getDup d = some bx → bx.members ≠ []) : GoodEnd d kids b := by
  obtain ⟨_, K2, M2, k2, ⟨bx, bx', q1, q2, q3⟩, _⟩ := hx
  obtain ⟨bxe, taxa, w1, w2, _, c, hc, hall⟩ := hg
  rw [q2] at w1
  cases w1
  obtain ⟨by1, hy1, hmem⟩ := hi.mem
  rw [q1] at hy1
  cases hy1
  rw [k2, q3] at w2
  obtain ⟨t1, t2, e1, e2, e3⟩ := memTaxa_part kids K2 M2 bx.members taxa w2 hmem
  exact ⟨bx, t1, q1, e2, e3 (hne bx q1), c, hc, fun t ht => hall t (e1 ▸ List.mem_append_left _ ht)⟩

theorem nest_open {d len : Nat} {kids : List Node} {a b : PS} (x : Option String) (hi : NInv d len kids b)
    (hr : Rel d a b) (hh : hd2 a.pstack = hd2 b.pstack) :
    pgOpen len x a = pushed a len d ∧ Rel d (pushed a len d) b := by
  rw [hi.hd] at hh
  obtain ⟨f', fs', ha, hd1, hd2'⟩ := hd2_eq_some hh
  refine ⟨?_, hi.inpg.symm, hi.cur.symm, hr.next, hr.reg, hr.ds⟩
  rw [pgOpen_reuse len x a f' fs' ha hd1, hd2']

/-- the close of the inner paralogGroup, which only the nested run performs, is invisible up to `Rel` -/
theorem nest_close {d len : Nat} {kids kids1 : List Node} {a b a1 b1 : PS} {M1 : List Key}
    (hi : NInv d len kids b) (hr : Rel d a b) (hh : hd2 a.pstack = hd2 b.pstack)
    (g1 : Grow d b b1 M1) (hM1 : M1 ≠ []) (i1 : NInv d len kids1 b1) (hg : GoodEnd d kids1 b1)
    (r1 : Rel d a1 b1) (p1 : a1.pstack = (pushed a len d).pstack) :
    ∃ a2, pgClose kids1 a1 = .ok a2 ∧ Rel d a2 b1 ∧ a2.pstack = a.pstack := by
  obtain ⟨bx0, bx1, q1, q2, q3⟩ := g1
  obtain ⟨bx, t1, w1, w4, w5⟩ := hg
  rw [q2] at w1
  cases w1
  obtain ⟨u, hu⟩ := mrcaOf_of_ok t1 w5
  obtain ⟨ax0, ha0, hm0, _⟩ := hr.getDup_some q1
  obtain ⟨ax1, ha1, hm1, _⟩ := r1.getDup_some q2
  have hsz : (pushed a len d).pstack = { depth := len, did := d, size := bx0.members.length } :: a.pstack := by
    simp only [pushed, ha0, hm0]
  obtain ⟨e1, e2⟩ := hd2_heads (hh.trans (hi.hd.trans i1.hd.symm))
  refine ⟨closed a1 a.pstack d u, pgClose_intro kids1 a1 _ a.pstack ax1 t1 u (p1.trans hsz) ha1 ?_ (hm1 ▸ w4) hu,
    ⟨e1.trans i1.sync.1.symm, e2.trans i1.sync.2.symm, r1.next, r1.reg, (r1.setm_left (some u)).ds⟩, rfl⟩
  rw [hm1, q3]
  simp only [List.length_append]
  have : M1.length ≠ 0 := fun e0 => hM1 (List.length_eq_zero_iff.mp e0)
  omega

namespace Place
variable {S : Type} {P : Place S}

structure Laws (P : Place S) : Prop extends P.Eqs where
  okIn_pg : ∀ x its es, P.okIn (.pg x its :: es) = ((spliceItems its).any P.mem && P.okIn its && P.okIn es)
  okIn_cons : ∀ e es, isPg e = false → P.okIn (e :: es) = (P.ok e && P.okIn es)
  ok_pg : ∀ x its, P.ok (.pg x its) = P.okIn its
  gen : ∀ e s ps s' ps', noTaxRange e = true → P.one e s ps = .ok (s', ps') → Gen ps ps'
  nest : ∀ {d : Nat} e s a b s1 b1, isPg e = false → noTaxRange e = true → NInv d P.len (P.kids s) b →
    Rel d a b → hd2 a.pstack = hd2 b.pstack → P.one e s b = .ok (s1, b1) →
    ∃ a1, P.one e s a = .ok (s1, a1) ∧ Rel d a1 b1 ∧ hd2 a1.pstack = hd2 b1.pstack ∧
      Ext d P.len (P.kids s) b (P.kids s1) b1 (P.mem e = true)

namespace Laws
variable (W : P.Laws)
include W

theorem many_gen (es : List Elem) : ∀ (s : S) (ps : PS) (s' : S) (ps' : PS), noTaxRangeL es = true →
    P.many es s ps = .ok (s', ps') → Gen ps ps' :=
  W.toEqs.many_gen_of es fun e _ => W.gen e

theorem flatSeg {d : Nat} (es : List Elem) (s : S) (b : PS) (s' : S) (b' : PS)
    (hp : ∀ e ∈ es, isPg e = false) (ht : noTaxRangeL es = true) (hi : NInv d P.len (P.kids s) b)
    (h : P.many es s b = .ok (s', b')) : Ext d P.len (P.kids s) b (P.kids s') b' (es.any P.mem = true) := by
  induction es generalizing s b with
  | nil =>
    rw [W.many_nil] at h
    cases h
    exact Ext.refl hi (fun h => by cases h)
  | cons e es ih =>
    simp only [noTaxRangeL, Bool.and_eq_true] at ht
    obtain ⟨s1, b1, hv, h⟩ := W.many_ok_cons h
    obtain ⟨_, _, _, _, x1⟩ := W.nest e s b b s1 b1
      (hp e (List.mem_cons_self ..)) ht.1 hi (Rel.refl d b) rfl hv
    have x2 := ih s1 b1 (fun e' he' => hp e' (List.mem_cons_of_mem _ he')) ht.2 x1.1 h
    exact x1.trans x2 (fun h => by simpa only [List.any_cons, Bool.or_eq_true] using h)

end Laws

/-- the last hypothesis: a paralogGroup that finds a frame of its own depth open joins that duplication instead
    of starting one -/
def Main (P : Place S) (e : Elem) : Prop :=
  ∀ s ps r, P.ok e = true → noTaxRange e = true → ps.Fresh →
    (∀ f fs, ps.pstack = f :: fs → f.depth ≤ P.len) →
    (isPg e = true → ∀ f fs, ps.pstack = f :: fs → f.depth ≠ P.len) →
    P.one (flatElem e) s ps = .ok r → P.one e s ps = .ok r

/-- the items of a paralogGroup whose duplication is `d`: run spliced from `b`, they can be run as written
    from any `a` that differs from `b` in the `mrca` of `d` only, provided the last close will succeed -/
def Splice (P : Place S) (its : List Elem) : Prop :=
  ∀ d s a b s' b', P.okIn its = true → noTaxRangeL its = true → b.Fresh → NInv d P.len (P.kids s) b →
    Rel d a b → hd2 a.pstack = hd2 b.pstack → P.many (spliceItems its) s b = .ok (s', b') →
    GoodEnd d (P.kids s') b' →
    ∃ a', P.many its s a = .ok (s', a') ∧ Rel d a' b' ∧ a'.pstack = a.pstack

namespace Laws
variable (W : P.Laws)
include W

theorem splice_nil : P.Splice [] := by
  intro d s a b s' b' _ _ _ _ hr _ h _
  rw [spliceItems, W.many_nil] at h
  cases h
  exact ⟨a, W.many_nil s a, hr, rfl⟩

theorem splice_cons {e : Elem} {es : List Elem} (hp : isPg e = false) (hm : P.Main e) (hrec : P.Splice es) :
    P.Splice (e :: es) := by
  intro d s a b s' b' hn ht hf hi hr hh h hg
  rw [W.okIn_cons e es hp, Bool.and_eq_true] at hn
  simp only [noTaxRangeL, Bool.and_eq_true] at ht
  rw [spliceItems_cons_nonpg e es hp] at h
  obtain ⟨s1, b1, hv, h⟩ := W.many_ok_cons h
  have hv' := hm s b _ hn.1 ht.1 hf hi.depth_le (fun hpt => by rw [hp] at hpt; cases hpt) hv
  obtain ⟨a1, e1, r1, h1, i1, _⟩ := W.nest e s a b s1 b1 hp ht.1 hi hr hh hv'
  have gb := W.gen e s b s1 b1 ht.1 hv'
  have ga := W.gen e s a s1 a1 ht.1 e1
  obtain ⟨a', e2, r2, p2⟩ := hrec d s1 a1 b1 s' b' hn.2 ht.2 (gb.fresh hf) i1 r1 h1 h hg
  exact ⟨a', (W.many_cons_of e1).trans e2, r2, p2.trans ga.pstack⟩

theorem splice_cons_pg {x : Option String} {its1 es : List Elem} (ih1 : P.Splice its1) (ih2 : P.Splice es) :
    P.Splice (.pg x its1 :: es) := by
  intro d s a b s' b' hn ht hf hi hr hh h hg
  rw [W.okIn_pg] at hn
  simp only [Bool.and_eq_true] at hn
  obtain ⟨⟨hany, hn1⟩, hn2⟩ := hn
  simp only [noTaxRangeL, noTaxRange, Bool.and_eq_true] at ht
  have ht1 : noTaxRangeL (spliceItems its1) = true := by rw [spliceItems_noTR]; exact ht.1
  rw [spliceItems, W.many_append] at h
  obtain ⟨⟨s1, b1⟩, hv, h⟩ := bind_ok h
  -- the flat run: the part of the inner group, then the rest
  have x1 := W.flatSeg _ s b s1 b1 (spliceItems_noPg its1) ht1 hi hv
  have x2 := W.flatSeg _ s1 b1 s' b' (spliceItems_noPg es) (by rw [spliceItems_noTR]; exact ht.2) x1.1 h
  obtain ⟨i1, K1, M1, k1, g1, m1⟩ := x1
  have hg1 : GoodEnd d (P.kids s1) b1 := GoodEnd.prefix i1 x2 hg (g1.ne_nil (m1 hany))
  -- the nested run: open, the inner items, close, the rest
  obtain ⟨eopen, r0⟩ := nest_open x hi hr hh
  obtain ⟨a1, e1, r1, p1⟩ := ih1 d s (pushed a P.len d) b s1 b1 hn1 ht.1 hf hi r0 (by rw [hi.hd]; rfl) hv hg1
  obtain ⟨a2, eclose, r2, p2⟩ := nest_close hi hr hh g1 (m1 hany) i1 hg1 r1 p1
  have gb1 := W.many_gen _ s b s1 b1 ht1 hv
  obtain ⟨a', e2, r3, p3⟩ := ih2 d s1 a2 b1 s' b' hn2 ht.2 (gb1.fresh hf) i1 r2
    (by rw [p2, hh, hi.hd, i1.hd]) h hg
  rw [← eopen] at e1
  exact ⟨a', (W.many_cons_of (W.pg_of e1 eclose)).trans e2, r3, p3.trans p2⟩

/-- the last close writes the same `mrca` on both sides, so the states are equal and not only related -/
theorem main_pg {x : Option String} {its : List Elem} (hs : P.Splice its) : P.Main (.pg x its) := by
  intro s ps r hn ht hf _ hpg h
  obtain ⟨s', ps3⟩ := r
  rw [W.ok_pg] at hn
  simp only [noTaxRange] at ht
  rw [flatElem] at h
  have hnew := pgOpen_new P.len x ps (hpg rfl)
  obtain ⟨b', hv, hc⟩ := W.pg_ok h
  rw [hnew] at hv
  have hgd := getDup_newDup_self ps x hf
  have hi : NInv ps.next P.len (P.kids s) (pushed (newDup ps x).2 P.len ps.next) :=
    ⟨rfl, rfl, rfl, by simp [pushed, newDup], _, hgd, by intro k hk; cases hk⟩
  have hfp : (pushed (newDup ps x).2 P.len ps.next).Fresh := newDup_fresh ps x hf
  have hts : noTaxRangeL (spliceItems its) = true := by rw [spliceItems_noTR]; exact ht
  have gflat := W.many_gen (spliceItems its) s _ s' b' hts hv
  obtain ⟨f, fs, bx, taxa, u, c1, c2, _, c4, c5, _⟩ := pgClose_elim _ _ _ hc
  have hst := gflat.pstack
  rw [c1] at hst
  have hfd : f.did = ps.next := by
    simp only [pushed, List.cons.injEq] at hst
    rw [hst.1]
  rw [hfd] at c2
  obtain ⟨a', e1, r1, p1⟩ := hs _ s _ _ s' b' hn ht hfp hi (Rel.refl _ _) rfl hv
    ⟨bx, taxa, c2, c4, ok_of_mrcaOf taxa u c5⟩
  obtain ⟨u', d1, d2, _⟩ := sim_pgClose (P.kids s') a' b' ps3 f fs fs r1
    (p1.trans (gflat.pstack.symm.trans c1)) c1 rfl hc
  rw [← hnew] at e1
  rw [W.pg_of e1 d2, d1, hfd, closed_eq r1]

theorem main_cons {e : Elem} {es : List Elem} {s : S} {ps : PS} {r : S × PS} (hm : P.Main e)
    (hn : P.ok e = true) (ht : noTaxRange e = true) (hf : ps.Fresh)
    (hd : ∀ f fs, ps.pstack = f :: fs → f.depth < P.len)
    (hrec : ∀ s1 ps1, ps1.Fresh → (∀ f fs, ps1.pstack = f :: fs → f.depth < P.len) →
      P.many (flatItems es) s1 ps1 = .ok r → P.many es s1 ps1 = .ok r)
    (h : P.many (flatItems (e :: es)) s ps = .ok r) : P.many (e :: es) s ps = .ok r := by
  rw [flatItems] at h
  obtain ⟨s1, ps1, hv, h⟩ := W.many_ok_cons h
  have e1 := hm s ps _ hn ht hf (fun f fs hst => Nat.le_of_lt (hd f fs hst))
    (fun _ f fs hst => Nat.ne_of_lt (hd f fs hst)) hv
  have g1 := W.gen e s ps s1 ps1 ht e1
  rw [W.many_cons_of e1]
  exact hrec s1 ps1 (g1.fresh hf) (fun f fs hst => hd f fs (by rw [← g1.pstack]; exact hst)) h

end Laws
end Place

theorem ogLaws (env : Env) (len : Nat) : (ogPlace env len).Laws where
  toEqs := ogEqs env len
  okIn_pg x its es := by
    show nestsOkIn (.pg x its :: es) = _
    rw [nestsOkIn]
    rfl
  okIn_cons := nestsOkIn_cons_nonpg
  ok_pg x its := by
    show nestsOk (.pg x its) = _
    rw [nestsOk]
    rfl
  gen e hb ps hb' ps' ht h := (elem_gen env e len hb ps hb' ps' ht h).1
  nest e hb a b hb1 b1 := nest_elem env e hb a b hb1 b1

theorem main_og (env : Env) (len : Nat) {hid og : Option String} {its : List Elem}
    (ih : ∀ hb ps r, nestsOkL its = true → noTaxRangeL its = true → ps.Fresh →
      (∀ f fs, ps.pstack = f :: fs → f.depth < len + 1) →
      elems env (len + 1) (flatItems its) hb ps = .ok r → elems env (len + 1) its hb ps = .ok r) :
    (ogPlace env len).Main (.og hid og its) := by
  intro hb ps r hn ht hf hdp _ h
  simp only [ogPlace, nestsOk] at hn
  simp only [noTaxRange] at ht
  rw [flatElem] at h
  change elem env len (.og hid og (flatItems its)) hb ps = .ok r at h
  show elem env len (.og hid og its) hb ps = .ok r
  rw [elem_og_run] at h ⊢
  obtain ⟨v, hrun, h⟩ := bind_ok h
  rw [main_ogRun env false len hid og its ps v ih hn ht hf hdp hrun]
  exact h

mutual
theorem main_elem (env : Env) : (e : Elem) → (len : Nat) → (hb : HogBuild) → (ps : PS) → (r : HogBuild × PS) →
    nestsOk e = true → noTaxRange e = true → ps.Fresh →
    (∀ f fs, ps.pstack = f :: fs → f.depth ≤ len) →
    (isPg e = true → ∀ f fs, ps.pstack = f :: fs → f.depth ≠ len) →
    elem env len (flatElem e) hb ps = .ok r → elem env len e hb ps = .ok r
  | .ref _ _, _ => fun _ _ _ _ _ _ _ _ h => h
  | .score _ _, _ => fun _ _ _ _ _ _ _ _ h => h
  | .prop _ _, _ => fun _ _ _ _ _ _ _ _ h => h
  | .og _ _ its, len => main_og env len (main_elems env its (len + 1))
  | .pg _ its, len => (ogLaws env len).main_pg (spliceL env its len)
theorem main_elems (env : Env) : (es : List Elem) → (len : Nat) → (hb : HogBuild) → (ps : PS) →
    (r : HogBuild × PS) → nestsOkL es = true → noTaxRangeL es = true → ps.Fresh →
    (∀ f fs, ps.pstack = f :: fs → f.depth < len) →
    elems env len (flatItems es) hb ps = .ok r → elems env len es hb ps = .ok r
  | [], _ => fun _ _ _ _ _ _ _ h => h
  | e :: es, len => fun hb ps r hn ht hf hdp h => by
    simp only [nestsOkL, Bool.and_eq_true] at hn
    simp only [noTaxRangeL, Bool.and_eq_true] at ht
    exact (ogLaws env len).main_cons (main_elem env e len) hn.1 ht.1 hf hdp
      (fun hb1 ps1 hf1 hd1 h1 => main_elems env es len hb1 ps1 r hn.2 ht.2 hf1 hd1 h1) h
theorem spliceL (env : Env) : (its : List Elem) → (len d : Nat) → (hb : HogBuild) → (a b : PS) →
    (hb' : HogBuild) → (b' : PS) → nestsOkIn its = true → noTaxRangeL its = true → b.Fresh →
    NInv d len hb.kids b → Rel d a b → hd2 a.pstack = hd2 b.pstack →
    elems env len (spliceItems its) hb b = .ok (hb', b') → GoodEnd d hb'.kids b' →
    ∃ a', elems env len its hb a = .ok (hb', a') ∧ Rel d a' b' ∧ a'.pstack = a.pstack
  | [], len => (ogLaws env len).splice_nil
  | .pg _ its1 :: es, len => (ogLaws env len).splice_cons_pg (spliceL env its1 len) (spliceL env es len)
  | .ref i l :: es, len =>
    (ogLaws env len).splice_cons (e := .ref i l) rfl (main_elem env _ len) (spliceL env es len)
  | .score i v :: es, len =>
    (ogLaws env len).splice_cons (e := .score i v) rfl (main_elem env _ len) (spliceL env es len)
  | .prop n v :: es, len =>
    (ogLaws env len).splice_cons (e := .prop n v) rfl (main_elem env _ len) (spliceL env es len)
  | .og i o its :: es, len =>
    (ogLaws env len).splice_cons (e := .og i o its) rfl (main_elem env _ len) (spliceL env es len)
end

/-! ### the top of <groups> -/

def topPlace (env : Env) (flt : HogFilter) : Place (List Node) :=
  ⟨0, fun tops => tops, memberF flt, nestsOkF flt, nestsOkInF flt, topElem env flt, topElems env flt⟩

theorem topEqs (env : Env) (flt : HogFilter) : (topPlace env flt).Eqs where
  many_nil _ _ := by
    show topElems env flt [] _ _ = _
    rw [topElems]
  many_cons _ _ _ _ := topElems_cons
  one_pg _ _ _ _ := topElem_pg

theorem topElem_og_run (env : Env) (flt : HogFilter) (hid og : Option String) (its : List Elem)
    (tops : List Node) (ps : PS) :
    topElem env flt (.og hid og its) tops ps =
      (kept flt hid).bind fun
        | false => .ok (tops, ps)
        | true => (ogRun env true 0 hid og its ps).bind fun r => .ok (tops ++ r.1, r.2) := by
  rw [topElem_og]
  cases kept flt hid with
  | error e => rfl
  | ok keep =>
    cases keep with
    | false => rfl
    | true =>
      show topElem env none (.og hid og its) tops ps = _
      rw [topElem_og_none]
      exact (bind_bind _ _ _).symm

theorem kept_false {flt : HogFilter} {hid : Option String} (h : kept flt hid = .ok false)
    (og : Option String) (its : List Elem) : memberF flt (.og hid og its) = false := by
  unfold kept at h
  unfold memberF
  cases flt with
  | none => cases h
  | some ids =>
    cases hid with
    | none => cases h
    | some i =>
      simp only [Except.ok.injEq] at h
      exact h

theorem memberF_none (e : Elem) : memberF none e = isMember e := by
  cases e <;> rfl

mutual
theorem nestsOkF_none : (e : Elem) → nestsOkF none e = nestsOk e
  | .ref _ _ => rfl
  | .score _ _ => rfl
  | .prop _ _ => rfl
  | .og _ _ its => by simp only [nestsOkF, nestsOk]
  | .pg _ its => by simp only [nestsOkF, nestsOk]; exact nestsOkInF_none its
theorem nestsOkLF_none : (es : List Elem) → nestsOkLF none es = nestsOkL es
  | [] => rfl
  | e :: es => by simp only [nestsOkLF, nestsOkL, nestsOkF_none e, nestsOkLF_none es]
theorem nestsOkInF_none : (es : List Elem) → nestsOkInF none es = nestsOkIn es
  | [] => rfl
  | e :: es => by
    cases e with
    | pg _ its =>
      have : (fun e => memberF none e) = isMember := funext memberF_none
      simp only [nestsOkInF, nestsOkIn, nestsOkInF_none its, nestsOkInF_none es]
      congr 2
    | _ => simp only [nestsOkInF, nestsOkIn, nestsOkF_none, nestsOkInF_none es]
end

theorem nestsOkInF_cons_nonpg (flt : HogFilter) (e : Elem) (es : List Elem) (h : isPg e = false) :
    nestsOkInF flt (e :: es) = (nestsOkF flt e && nestsOkInF flt es) := by
  cases e with
  | pg _ _ => cases h
  | _ => simp only [nestsOkInF]

theorem topElem_gen (env : Env) (flt : HogFilter) (e : Elem) : ∀ (tops : List Node) (ps : PS)
    (tops' : List Node) (ps' : PS), noTaxRange e = true →
    topElem env flt e tops ps = .ok (tops', ps') → Gen ps ps' := by
  induction e using Elem.induct with
  | ref id loft =>
    intro tops ps tops' ps' _ h
    rw [topElem] at h
    split at h <;> cases h
  | score id v =>
    intro tops ps tops' ps' _ h
    rw [topElem] at h
    cases h
  | prop n v =>
    intro tops ps tops' ps' _ h
    rw [topElem] at h
    cases h
  | pg pgid its ih =>
    intro tops ps tops' ps' hn h
    simp only [noTaxRange] at hn
    obtain ⟨ps2, hv, hc⟩ := (topEqs env flt).pg_ok h
    exact pg_gen ((topEqs env flt).many_gen_of its ih tops _ tops' ps2 hn hv) hc
  | og hid og its _ =>
    intro tops ps tops' ps' hn h
    simp only [noTaxRange] at hn
    rw [topElem_og_run] at h
    obtain ⟨keep, _, h⟩ := bind_ok h
    cases keep with
    | false =>
      cases h
      exact Gen.refl _
    | true =>
      obtain ⟨⟨res, ps1⟩, hr, h⟩ := bind_ok h
      cases h
      exact (ogRun_gen env true 0 hid og its ps res ps1 (elems_gen env its) hn hr).1

theorem nest_top {d : Nat} (env : Env) (flt : HogFilter) (e : Elem) (tops : List Node) (a b : PS)
    (tops1 : List Node) (b1 : PS)
    (hp : isPg e = false) (ht : noTaxRange e = true) (hi : NInv d 0 tops b) (hr : Rel d a b)
    (hh : hd2 a.pstack = hd2 b.pstack) (h : topElem env flt e tops b = .ok (tops1, b1)) :
    ∃ a1, topElem env flt e tops a = .ok (tops1, a1) ∧ Rel d a1 b1 ∧ hd2 a1.pstack = hd2 b1.pstack ∧
      Ext d 0 tops b tops1 b1 (memberF flt e = true) := by
  cases e with
  | pg x its => cases hp
  | score id v =>
    rw [topElem] at h
    cases h
  | prop n v =>
    rw [topElem] at h
    cases h
  | ref id loft =>
    rw [topElem] at h
    split at h <;> cases h
  | og hid og its =>
    simp only [noTaxRange] at ht
    rw [topElem_og_run] at h ⊢
    obtain ⟨keep, hk, h⟩ := bind_ok h
    rw [hk]
    cases keep with
    | false =>
      cases h
      refine ⟨a, rfl, hr, hh, Ext.refl hi fun hm => ?_⟩
      rw [kept_false hk] at hm
      cases hm
    | true =>
      obtain ⟨⟨res, b'⟩, hrun, h⟩ := bind_ok h
      cases h
      obtain ⟨a', e1, r1, h1, x1⟩ := nest_ogRun env true hid og its tops a b res b' ht hi hr hh hrun
      refine ⟨a', ?_, r1, h1, x1⟩
      show (ogRun env true 0 hid og its a).bind _ = _
      rw [e1]
      rfl

theorem topLaws (env : Env) (flt : HogFilter) : (topPlace env flt).Laws where
  toEqs := topEqs env flt
  okIn_pg x its es := by
    show nestsOkInF flt (.pg x its :: es) = _
    rw [nestsOkInF]
    rfl
  okIn_cons := nestsOkInF_cons_nonpg flt
  ok_pg x its := by
    show nestsOkF flt (.pg x its) = _
    rw [nestsOkF]
    rfl
  gen := topElem_gen env flt
  nest e tops a b tops1 b1 := nest_top env flt e tops a b tops1 b1

theorem main_top_og (env : Env) (flt : HogFilter) (hid og : Option String) (its : List Elem) :
    (topPlace env flt).Main (.og hid og its) := by
  intro tops ps r hn ht hf hdp _ h
  simp only [topPlace, nestsOkF] at hn
  simp only [noTaxRange] at ht
  rw [flatElem] at h
  change topElem env flt (.og hid og (flatItems its)) tops ps = .ok r at h
  show topElem env flt (.og hid og its) tops ps = .ok r
  rw [topElem_og_run] at h ⊢
  obtain ⟨keep, hk, h⟩ := bind_ok h
  rw [hk]
  cases keep with
  | false => exact h
  | true =>
    obtain ⟨v, hrun, h⟩ := bind_ok h
    show (ogRun env true 0 hid og its ps).bind _ = _
    rw [main_ogRun env true 0 hid og its ps v (main_elems env its (0 + 1)) hn ht hf hdp hrun]
    exact h

mutual
theorem main_top (env : Env) (flt : HogFilter) : (e : Elem) → (topPlace env flt).Main e
  | .ref _ _ => fun _ _ _ _ _ _ _ _ h => h
  | .score _ _ => fun _ _ _ _ _ _ _ _ h => h
  | .prop _ _ => fun _ _ _ _ _ _ _ _ h => h
  | .og hid og its => main_top_og env flt hid og its
  | .pg _ its => (topLaws env flt).main_pg (spliceT env flt its)
theorem spliceT (env : Env) (flt : HogFilter) : (its : List Elem) → (d : Nat) → (tops : List Node) → (a b : PS) →
    (tops' : List Node) → (b' : PS) → nestsOkInF flt its = true → noTaxRangeL its = true → b.Fresh →
    NInv d 0 tops b → Rel d a b → hd2 a.pstack = hd2 b.pstack →
    topElems env flt (spliceItems its) tops b = .ok (tops', b') → GoodEnd d tops' b' →
    ∃ a', topElems env flt its tops a = .ok (tops', a') ∧ Rel d a' b' ∧ a'.pstack = a.pstack
  | [] => (topLaws env flt).splice_nil
  | .pg _ its1 :: es => (topLaws env flt).splice_cons_pg (spliceT env flt its1) (spliceT env flt es)
  | .ref i l :: es =>
    (topLaws env flt).splice_cons (e := .ref i l) rfl (main_top env flt _) (spliceT env flt es)
  | .score i v :: es =>
    (topLaws env flt).splice_cons (e := .score i v) rfl (main_top env flt _) (spliceT env flt es)
  | .prop n v :: es =>
    (topLaws env flt).splice_cons (e := .prop n v) rfl (main_top env flt _) (spliceT env flt es)
  | .og i o its :: es =>
    (topLaws env flt).splice_cons (e := .og i o its) rfl (main_top env flt _) (spliceT env flt es)
end

theorem main_tops (env : Env) (flt : HogFilter) (es : List Elem) (tops : List Node) (ps : PS)
    (r : List Node × PS) (hn : nestsOkLF flt es = true) (ht : noTaxRangeL es = true) (hf : ps.Fresh)
    (hdp : ∀ f fs, ps.pstack = f :: fs → f.depth < 0)
    (h : topElems env flt (flatItems es) tops ps = .ok r) : topElems env flt es tops ps = .ok r := by
  induction es generalizing tops ps with
  | nil => exact h
  | cons e es ih =>
    simp only [nestsOkLF, Bool.and_eq_true] at hn
    simp only [noTaxRangeL, Bool.and_eq_true] at ht
    exact (topLaws env flt).main_cons (main_top env flt e) hn.1 ht.1 hf hdp
      (fun tops1 ps1 hf1 hd1 h1 => ih tops1 ps1 hn.2 ht.2 hf1 hd1 h1) h

end NP

/-!
  ### the statements

  Why each hypothesis besides `nestsOkL` is there; without it the statement fails on the input given
  (the first is kernel-checked in NestedPgCx; the other two are not in the library).

  * `noTaxRangeL`.  Closing an orthologGroup that is collapsed into its parent (`TaxRange` equal to the
    name of its only genome) while it is a member of a paralogGroup decrements the depth of the top
    `paralog_stack` frame.  A paralogGroup nested directly AFTER such a member no longer finds a frame of
    its own depth and allocates a second DuplicationNode.  With the species tree R(X(A,B),C) and genes
    a1,a2∈A, b1∈B, c1∈C, the file
      og H [ pg [ og K [prop TaxRange "A", ref a1, ref a2], pg [ref b1] ], ref c1 ]
    and its flattening both load, to different results (one duplication with three copies vs. two
    duplications, different counters and registration logs); `C14_nested_eq_flat_needs_no_collapse`.
  * `ps.Fresh`, and no open paralogGroup of depth `len` (for a start state that is not the initial one).
    With `hb.kids = []` and an open frame of depth `len` whose duplication already has the member `g "z"`,
    the items `[pg [pg [ref a], ref z]]` load flat (the outer close finds `z`) but not nested (the inner
    close does not).
  * `nestsOkLF flt` for a filtered load.  `[pg [og FA [ref a1], pg [og FB [ref b1]]]]` with the filter
    keeping only `FA`: the flat spelling loads, the nested one is rejected ("empty paralogGroup").
    `nestsOkLF flt` counts only the families the filter keeps (`nestsOkLF none = nestsOkL`).
-/

/-- inside an open orthologGroup: if the flat spelling loads, the nested spelling loads to the same result -/
theorem elems_nested_eq_flat_partial (env : Env) (len : Nat) (es : List Elem) (hb : HogBuild) (ps : PS)
    (r : HogBuild × PS) (hn : nestsOkL es = true) (ht : noTaxRangeL es = true) (hf : ps.Fresh)
    (hd : ∀ f fs, ps.pstack = f :: fs → f.depth < len)
    (h : elems env len (flatItems es) hb ps = .ok r) :
    elems env len es hb ps = .ok r :=
  NP.main_elems env es len hb ps r hn ht hf hd h

/-- the same for the whole group section of a file (unfiltered or filtered load) -/
theorem topElems_nested_eq_flat_partial (env : Env) (flt : HogFilter) (es : List Elem) (tops : List Node)
    (ps : PS) (r : List Node × PS) (hn : nestsOkLF flt es = true) (ht : noTaxRangeL es = true)
    (hf : ps.Fresh) (hst : ps.pstack = [])
    (h : topElems env flt (flatItems es) tops ps = .ok r) :
    topElems env flt es tops ps = .ok r :=
  NP.main_tops env flt es tops ps r hn ht hf (fun f fs h0 => by rw [hst] at h0; cases h0) h

theorem buildHam_of_topElems {T : STree} {nm : Naming} {inp : Input} {keep : String → Bool} {flt : HogFilter}
    {H : Ham} (g : List Elem)
    (hg : ∀ env v, topElems env flt g [] {} = .ok v → topElems env flt inp.groups [] {} = .ok v)
    (h : buildHam T nm { inp with groups := g } keep flt = .ok H) : buildHam T nm inp keep flt = .ok H := by
  simp only [buildHam, bind, Except.bind] at h ⊢
  split at h
  · cases h
  · rename_i genes _
    split at h
    · cases h
    · rename_i v hv
      rw [hg _ v hv]
      exact h

/-- **C14 (nested vs flat paralogGroups)**: for a file without TaxRange properties, if its flattened
    spelling loads to `H`, the file as written loads to the same `H`.  The converse is not proved; no
    counterexample is known. -/
theorem C14_nested_eq_flat_partial (T : STree) (nm : Naming) (inp : Input) (H : Ham)
    (hn : nestsOkL inp.groups = true) (ht : noTaxRangeL inp.groups = true)
    (h : load T nm { inp with groups := flatItems inp.groups } = .ok H) :
    load T nm inp = .ok H :=
  buildHam_of_topElems _ (fun env v hv => topElems_nested_eq_flat_partial env none inp.groups [] {} v
    (by rw [NP.nestsOkLF_none]; exact hn) ht (by intro b hb; cases hb) rfl hv) h

/-- the same for a filtered load, when every directly nested paralogGroup keeps a selected family -/
theorem C14_nested_eq_flat_filtered_partial (T : STree) (nm : Naming) (inp : Input) (keep : String → Bool)
    (flt : HogFilter) (H : Ham)
    (hn : nestsOkLF flt inp.groups = true) (ht : noTaxRangeL inp.groups = true)
    (h : buildHam T nm { inp with groups := flatItems inp.groups } keep flt = .ok H) :
    buildHam T nm inp keep flt = .ok H :=
  buildHam_of_topElems _ (fun env v hv => topElems_nested_eq_flat_partial env flt inp.groups [] {} v hn ht
    (by intro b hb; cases hb) rfl hv) h

end Pyham
