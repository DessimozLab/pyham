/-
  C17, the listing of genomes: calls may add genomes to it (`SState.touched`: created lazily by lateral comparisons
  and tree profiles) and remove none; no taxon outside the initial listing has a gene.
-/
import PyhamModel.Lemmas.SessionLemmas
import PyhamModel.Lemmas.LoaderEqns
import PyhamModel.Lemmas.ExceptAll
namespace Pyham

/-- every gene lives at the leaf of a declared species -/
def Ham.genesInSpecies (H : Ham) : Prop := ∀ g ∈ H.genes, g.tx ∈ H.species.map (·.2)

theorem genomeSize_zero_of_not_initial (H : Ham) (hg : H.genesInSpecies) (t : Taxon)
    (ht : t ∉ H.initialGenomes) : H.genomeSize t = 0 := by
  have h1 : (H.genes.filter (·.tx == t)).length = 0 :=
    List.length_eq_zero_iff.2 (List.filter_eq_nil_iff.2 fun g hgm hgt =>
      ht (List.mem_append_left _ (eq_of_beq hgt ▸ hg g hgm)))
  have h2 : (H.reg.filter (·.1 == t)).length = 0 :=
    List.length_eq_zero_iff.2 (List.filter_eq_nil_iff.2 fun e he het =>
      ht (List.mem_append_right _ (eq_of_beq het ▸ List.mem_map_of_mem he)))
  rw [Ham.genomeSize, h1, h2, ite_self]

/-- **C17 (listing)**: after any call sequence every genome present after loading is still listed, and a taxon that
    is not among them -- listed or not -- has no gene (`genomeSize = 0`).  What the calls add is not described. -/
theorem C17_listing (H : Ham) (hg : H.genesInSpecies) (ops : List Op) :
    (∀ t ∈ H.initialGenomes, t ∈ (run (SState.init H) ops).1.listing) ∧
    (∀ t ∈ (run (SState.init H) ops).1.listing, t ∉ H.initialGenomes → H.genomeSize t = 0) := by
  refine ⟨fun t ht => ?_, fun t _ hn => genomeSize_zero_of_not_initial H hg t hn⟩
  rw [SState.listing, (C17_history_independent H ops).1]
  exact List.mem_append_left _ ht

/-! ### loaded analyses satisfy the hypothesis -/

theorem declareSpecies_tx (T : STree) (nm : Naming) (keep : String → Bool) (sp : List Species) :
    ∀ (acc genes : List GeneRec) (out : List (String × Taxon)), declareSpecies T nm keep sp acc = .ok genes →
    sp.mapM (fun s => (resolveSpecies T nm s.name).map fun p => (s.name, p)) = .ok out →
    ∀ g ∈ genes, g ∈ acc ∨ g.tx ∈ out.map (·.2) := by
  induction sp with
  | nil =>
    intro acc genes out h _
    cases h
    exact fun g hg => Or.inl hg
  | cons s ss ih =>
    intro acc genes out h hm g hg
    obtain ⟨p, hr, h⟩ := Except.bind_ok h
    rw [List.mapM_cons, hr] at hm
    obtain ⟨_, hb, hm⟩ := Except.bind_ok hm
    cases hb
    obtain ⟨rest, hrest, hm⟩ := Except.bind_ok hm
    cases hm
    rcases ih _ genes rest h hrest g hg with h1 | h1
    · rcases List.mem_append.mp h1 with h1 | h1
      · exact Or.inl h1
      · obtain ⟨d, _, rfl⟩ := List.mem_map.mp h1
        exact Or.inr List.mem_cons_self
    · exact Or.inr (List.mem_cons_of_mem _ h1)

theorem buildHam_genesInSpecies (T : STree) (nm : Naming) (inp : Input) (keep : String → Bool) (flt : HogFilter)
    (H : Ham) (h : buildHam T nm inp keep flt = .ok H) : H.genesInSpecies := by
  obtain ⟨genes, _, _, sp, hd, _, hm, rfl⟩ := buildHam_ok h
  intro g hg
  exact (declareSpecies_tx T nm keep inp.species [] genes sp hd hm g hg).resolve_left (nomatch ·)

theorem load_genesInSpecies (T : STree) (nm : Naming) (inp : Input) (H : Ham) (h : load T nm inp = .ok H) :
    H.genesInSpecies := buildHam_genesInSpecies T nm inp _ _ H h

end Pyham
