/-
  C04, last clause: "the number of ancestral genes at a taxon equals the number of family lineages crossing it".
  The lineages of a history that cross a taxon `t` are its groups (written or elided) at `t`; a hierarchy that
  realises the history has exactly one HOG per group there; and for a loaded consistent dataset the gene list of
  the ancestral genome at `t` has exactly that many entries.
-/
import PyhamModel.Lemmas.Capstone
import PyhamModel.Lemmas.CapstoneWF
import PyhamModel.Lemmas.Additivity
import PyhamModel.Lemmas.HistoryFold
namespace Pyham

theorem length_filter_cons {α} (p : α → Bool) (x : α) (xs : List α) :
    ((x :: xs).filter p).length = (if p x = true then 1 else 0) + (xs.filter p).length := by
  rw [List.filter_cons]
  split
  · rw [List.length_cons, Nat.add_comm]
  · rw [Nat.zero_add]

/-- number of HOGs at `t` in a forest -/
def hogCountL (t : Taxon) (ks : List Node) : Nat := ((Node.hogsL ks).filter fun x => x.tx == t).length

theorem hogCountL_cons (t : Taxon) (k : Node) (ks : List Node) :
    hogCountL t (k :: ks) = (k.hogs.filter fun x => x.tx == t).length + hogCountL t ks := by
  simp only [hogCountL, Node.hogsL, List.filter_append, List.length_append]

def lineageFold (t : Taxon) : HFold Unit where
  F q _ l := lineagesAt t q l
  FS q _ subs := lineagesAtSubs t q subs
  FC q _ cs := lineagesAtCopies t q cs
  here q _ _ := if q == t then 1 else 0
  down _ s := s
  sub s _ := s
  ev _ _ _ := 0
  grp _ _ _ _ _ _ := rfl
  nil _ _ := rfl
  one _ _ _ _ _ := rfl
  dup _ _ _ _ _ _ := by simp only [lineagesAtSubs, Nat.zero_add]
  ann _ _ _ _ := rfl
  cnil _ _ := rfl
  ccons _ _ _ _ := rfl

def lineageCount (t : Taxon) : NFold (lineageFold t) where
  N _ n := (n.hogs.filter fun x => x.tx == t).length
  NL _ ks := hogCountL t ks
  ok _ _ := True
  nil _ := rfl
  cons _ k ks := hogCountL_cons t k ks
  gene _ _ _ _ _ := rfl
  hog _ _ _ _ _ _ _ _ _ _ _ _ := length_filter_cons ..
  ok_sub _ _ _ _ _ _ _ _ _ := trivial
  ev _ _ _ := rfl

/-- one HOG per lineage: a hierarchy that realises the history has as many HOGs at `t` as lineages cross `t` -/
theorem realises_lineage_count (t q : Taxon) (l : SL) (n : Node) (h : Realises q l n) :
    (n.hogs.filter fun x => x.tx == t).length = lineagesAt t q l :=
  (lineageCount t).agree q () l n h trivial

theorem realisesSubs_count (t q : Taxon) : (subs : List Sub) → (plain : List Node) →
    (evs : List (DupRec × List Node)) → RealisesSubs q subs plain evs →
    hogCountL t plain + hogCountL t (evs.flatMap (·.2)) = lineagesAtSubs t q subs :=
  fun subs plain evs h => (lineageCount t).agreeSubs q () subs plain evs h (fun _ _ _ => trivial)

theorem realisesCopies_count (t q : Taxon) : (cs : List SL) → (ks : List Node) → RealisesCopies q cs ks →
    hogCountL t ks = lineagesAtCopies t q cs :=
  fun cs ks h => (lineageCount t).agreeCopies q () () cs ks h (fun _ _ => rfl) (fun _ _ => trivial)

/-! ### from one family to the dataset -/

theorem map_eq_of_index {α β γ} (f : α → γ) (g : β → γ) (A : List α) (B : List β)
    (hl : A.length = B.length) (h : ∀ i (h1 : i < A.length) (h2 : i < B.length), f A[i] = g B[i]) :
    A.map f = B.map g := by
  apply List.ext_getElem (by simpa using hl)
  intro i h1 h2
  simp only [List.getElem_map]
  exact h i (by simpa using h1) (by simpa using h2)

theorem length_filter_of_index {α β} (p : α → Bool) (r : β → Bool) (A : List α) (B : List β)
    (hl : A.length = B.length) (h : ∀ i (h1 : i < A.length) (h2 : i < B.length), p A[i] = r B[i]) :
    (A.filter p).length = (B.filter r).length := by
  have hm := congrArg (fun L => (L.filter id).length) (map_eq_of_index p r A B hl h)
  simp only [List.filter_map, List.length_map] at hm
  exact hm

namespace Loaded
variable {D : Dataset} {H : Ham}

theorem famSum (L : Loaded D H) (f : Node → Nat) (g : Taxon → SL → Nat)
    (h : ∀ p ∈ H.tops, ∀ e ∈ D.fams, Realises e.1 e.2 p.2 → f p.2 = g e.1 e.2) :
    Pyham.famSum H f = (D.fams.map fun p => g p.1 p.2).sum := by
  unfold Pyham.famSum
  rw [map_eq_of_index (fun p => f p.2) (fun p => g p.1 p.2) H.tops D.fams L.len
    (fun i h1 h2 => h _ (List.getElem_mem h1) _ (List.getElem_mem h2) (L.real i h1 h2))]

theorem roots (L : Loaded D H) (t : Taxon) :
    (H.tops.filter fun p => p.2.tx == t).length = (D.fams.filter fun f => f.1 == t).length :=
  length_filter_of_index _ _ _ _ L.len (fun i h1 h2 => by rw [realises_tx _ _ _ (L.real i h1 h2)])

theorem no_singletons (L : Loaded D H) (t : Taxon) (hint : D.T.isInternalAt t = true) : singletonsAt H t = [] := by
  unfold singletonsAt
  rw [List.filter_eq_nil_iff]
  intro g hg hgt
  simp only [Ham.singletons, List.mem_map, List.mem_filter] at hg
  obtain ⟨g0, ⟨hg0, _⟩, rfl⟩ := hg
  have hleaf := L.forest.gleaf g0 hg0
  simp only [Node.tx, beq_iff_eq] at hgt
  rw [hgt, L.tree] at hleaf
  exact leaf_not_internal _ _ hleaf hint

theorem genomeSize (L : Loaded D H) (t : Taxon) (ht : D.T.isInternalAt t = true) :
    H.genomeSize t = (D.fams.map fun f => lineagesAt t f.1 f.2).sum := by
  have hnl : H.tree.isLeafAt t = false := by
    cases hl : H.tree.isLeafAt t with
    | false => rfl
    | true =>
      rw [L.tree] at hl
      exact (leaf_not_internal _ _ hl ht).elim
  have e1 : H.genomeSize t = hogCountL t H.forest := by
    simp only [Ham.genomeSize, hnl, Bool.false_eq_true, if_false, hogCountL]
    rw [(L.forest.reg.filter _).length_eq, regOfL_eq_hogsL, List.filter_map, List.length_map]
    rfl
  have e2 : hogCountL t H.forest = Pyham.famSum H fun n => (n.hogs.filter fun x => x.tx == t).length := by
    simp only [hogCountL, Ham.forest, hogsL_eq_flatMap', List.filter_flatMap, List.length_flatMap, List.map_map]
    rfl
  rw [e1, e2]
  exact L.famSum _ _ (fun _ _ _ _ h => realises_lineage_count t _ _ _ h)

end Loaded

/-- **C04 (ancestral gene counts)**: for every consistent dataset the ancestral genome at an internal taxon `t`
    lists exactly as many HOGs as family lineages cross `t` -/
theorem C04_counts_are_lineages (D : Dataset) (hc : D.Consistent) :
    ∃ H, load D.T D.nm D.file = .ok H ∧
      ∀ t, D.T.isInternalAt t = true → H.genomeSize t = (D.fams.map fun f => lineagesAt t f.1 f.2).sum := by
  obtain ⟨H, L⟩ := Loaded.of_consistent D hc
  exact ⟨H, L.eq, L.genomeSize⟩

end Pyham
