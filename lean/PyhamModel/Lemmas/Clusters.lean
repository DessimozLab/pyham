/-
  The event clusters of `HOGsMap._build_event_clusters` as a fold over the upMap:
  what ends up in GAIN / RETAINED / DUPLICATE, for an arbitrary upMap, and that nothing is lost by
  the overwrite semantics of RETAINED when the upMap has no clash.
-/
import PyhamModel.Lemmas.KeyDict
namespace Pyham

abbrev UpEntry := Node × Option Node × Bool

/-- the fold `hogsMap` runs over its upMap; the link is `hogsMap_eq` (Partition.lean) -/
def clustersOf (up : List UpEntry) : Clusters := up.foldl clusterStep {}

/-- no clash: two different entries reported under the same ancestor are both flagged duplicated -/
def NoClash (up : List UpEntry) : Prop :=
  up.Pairwise fun e1 e2 => ∀ x1 x2, e1.2.1 = some x1 → e2.2.1 = some x2 → x1.key = x2.key →
    e1.2.2 = true ∧ e2.2.2 = true

/-- an entry reported under an ancestor with flag `f`, as an (ancestor, descendant) pair -/
def pairOf (f : Bool) (e : UpEntry) : Option (Node × Node) :=
  e.2.1.bind fun ho => if e.2.2 = f then some (ho, e.1) else none

def pairsOf (f : Bool) (up : List UpEntry) : List (Node × Node) := up.filterMap (pairOf f)

theorem pairOf_eq_some {f : Bool} {e : UpEntry} {p : Node × Node} :
    pairOf f e = some p ↔ e = (p.2, some p.1, f) := by
  obtain ⟨hy, o, g⟩ := e
  obtain ⟨x, n⟩ := p
  cases o with
  | none => simp [pairOf]
  | some ho =>
    by_cases hg : g = f
    · simp [pairOf, hg, and_comm]
    · simp [pairOf, hg]

theorem mem_pairsOf {f : Bool} {up : List UpEntry} {x n : Node} :
    (x, n) ∈ pairsOf f up ↔ (n, some x, f) ∈ up := by
  rw [pairsOf, List.mem_filterMap]
  constructor
  · rintro ⟨e, he, hp⟩
    exact pairOf_eq_some.1 hp ▸ he
  · intro he
    exact ⟨_, he, pairOf_eq_some.2 rfl⟩

theorem mem_pairsOf_keys {f : Bool} {up : List UpEntry} {k : Key} :
    k ∈ (pairsOf f up).map (·.1.key) ↔ ∃ e ∈ up, ∃ x, e.2.1 = some x ∧ x.key = k ∧ e.2.2 = f := by
  rw [List.mem_map]
  constructor
  · rintro ⟨⟨x, n⟩, hp, hk⟩
    exact ⟨_, mem_pairsOf.1 hp, x, rfl, hk, rfl⟩
  · rintro ⟨⟨n, o, g⟩, he, x, rfl, hk, rfl⟩
    exact ⟨(x, n), mem_pairsOf.2 he, hk⟩

theorem pairOf_isSome (f : Bool) (e : UpEntry) : (pairOf f e).isSome = (e.2.1.isSome && (e.2.2 == f)) := by
  rcases e with ⟨hy, _ | ho, g⟩
  · rfl
  · cases g <;> cases f <;> rfl

theorem length_pairsOf (f : Bool) (up : List UpEntry) :
    (pairsOf f up).length = up.countP fun e => e.2.1.isSome && (e.2.2 == f) := by
  rw [pairsOf, List.length_filterMap_eq_countP]
  exact congrArg (List.countP · up) (funext (pairOf_isSome f))

/-! ### the fold -/

/-- the four clusters are built independently of each other: GAIN and the found ancestors are filters of the
    upMap, RETAINED is the overwriting fold of the unflagged pairs, DUPLICATE the grouping of the flagged ones -/
theorem foldl_clusterStep (up : List UpEntry) (c : Clusters) :
    up.foldl clusterStep c =
      { gain := c.gain ++ up.filterMap (fun e => if e.2.1.isNone then some e.1 else none)
        retained := (pairsOf false up).foldl (fun d p => retPut d p.1 p.2) c.retained
        dupl := (pairsOf true up).foldl (fun d p => sdAppend d p.1 p.2) c.dupl
        seen := c.seen ++ up.filterMap (fun e => e.2.1.map Node.key) } := by
  induction up generalizing c with
  | nil =>
    rw [List.filterMap_nil, List.filterMap_nil, List.append_nil, List.append_nil]
    rfl
  | cons e up ih =>
    rw [List.foldl_cons, ih]
    -- the step puts one element at the end of a cluster, the right side has it at the front of the rest;
    -- everything else agrees by computation (`dupPut` is `sdAppend` on nodes)
    rcases e with ⟨hy, _ | ho, _ | _⟩
    · exact congrArg (Clusters.mk · _ _ _) (List.append_assoc c.gain [hy] _)
    · exact congrArg (Clusters.mk · _ _ _) (List.append_assoc c.gain [hy] _)
    · exact congrArg (Clusters.mk _ _ _ ·) (List.append_assoc c.seen [ho.key] _)
    · exact congrArg (Clusters.mk _ _ _ ·) (List.append_assoc c.seen [ho.key] _)

theorem clusters_gain (up : List UpEntry) :
    (clustersOf up).gain = up.filterMap (fun e => if e.2.1.isNone then some e.1 else none) := by
  rw [clustersOf, foldl_clusterStep]
  exact List.nil_append _

theorem clusters_seen (up : List UpEntry) :
    (clustersOf up).seen = up.filterMap (fun e => e.2.1.map Node.key) := by
  rw [clustersOf, foldl_clusterStep]
  exact List.nil_append _

theorem clusters_dupl (up : List UpEntry) : (clustersOf up).dupl = sdFold (pairsOf true up) := by
  rw [clustersOf, foldl_clusterStep]
  rfl

theorem foldl_retPut_keys_nodup (ps : List (Node × Node)) (d : List (Node × Node)) (h : (d.map (·.1.key)).Nodup) :
    ((ps.foldl (fun d p => retPut d p.1 p.2) d).map (·.1.key)).Nodup := by
  induction ps generalizing d with
  | nil => exact h
  | cons p ps ih => exact ih _ (keyPut_keys_nodup p.1 (fun _ => p.2) p.2 h)

theorem clusters_keys_nodup (up : List UpEntry) :
    ((clustersOf up).retained.map (·.1.key)).Nodup ∧ ((clustersOf up).dupl.map (·.1.key)).Nodup := by
  constructor
  · rw [clustersOf, foldl_clusterStep]
    exact foldl_retPut_keys_nodup _ _ List.nodup_nil
  · rw [clusters_dupl]
    exact (sdFold_spec _).1

theorem clusters_dupl_keys (up : List UpEntry) (k : Key) :
    k ∈ (clustersOf up).dupl.map (·.1.key) ↔
      ∃ e ∈ up, ∃ x, e.2.1 = some x ∧ x.key = k ∧ e.2.2 = true := by
  rw [clusters_dupl, ← mem_pairsOf_keys]
  obtain ⟨_, h2, h3⟩ := sdFold_spec (pairsOf true up)
  constructor
  · intro hk
    obtain ⟨e, he, rfl⟩ := List.mem_map.1 hk
    obtain ⟨p, hp, hpe⟩ := (h2 e he).2
    exact List.mem_map.2 ⟨p, hp, congrArg Node.key hpe⟩
  · intro hk
    obtain ⟨p, hp, rfl⟩ := List.mem_map.1 hk
    exact h3 p hp

theorem clusters_dupl_flat (up : List UpEntry) :
    ((clustersOf up).dupl.flatMap (·.2)).Perm ((pairsOf true up).map (·.2)) := by
  rw [clusters_dupl]
  exact sdFold_flat _

theorem clusters_dupl_nonempty (up : List UpEntry) : ∀ e ∈ (clustersOf up).dupl, e.2 ≠ [] := by
  rw [clusters_dupl]
  exact sdFold_ne_nil _

/-! ### without clash -/

theorem NoClash.unflagged_keys_nodup {up : List UpEntry} (h : NoClash up) :
    ((pairsOf false up).map (·.1.key)).Nodup := by
  refine List.pairwise_map.2 (List.Pairwise.filterMap _ ?_ h)
  intro e e' hR p hp p' hp' hk
  rw [pairOf_eq_some.1 hp, pairOf_eq_some.1 hp'] at hR
  exact Bool.noConfusion (hR p.1 p'.1 rfl rfl hk).1

theorem foldl_retPut_of_nodup (ps : List (Node × Node)) (h : (ps.map (·.1.key)).Nodup) :
    ps.foldl (fun d p => retPut d p.1 p.2) [] = ps := by
  induction ps using snoc_induction with
  | nil => rfl
  | snoc ps p ih =>
    rw [List.map_append, List.nodup_append] at h
    rw [List.foldl_append, ih h.1, List.foldl_cons, List.foldl_nil, retPut_eq]
    exact keyPut_of_not_mem _ _ fun hp => h.2.2 _ hp _ List.mem_cons_self rfl

/-- without clash nothing is overwritten: RETAINED is exactly the list of unflagged entries, in order -/
theorem clusters_retained_pairs (up : List UpEntry) (h : NoClash up) :
    (clustersOf up).retained = pairsOf false up := by
  rw [clustersOf, foldl_clusterStep]
  exact foldl_retPut_of_nodup _ h.unflagged_keys_nodup

theorem NoClash.of_ne {up : List UpEntry} (h : NoClash up) :
    ∀ e1 ∈ up, ∀ e2 ∈ up, e1 ≠ e2 → ∀ x1 x2, e1.2.1 = some x1 → e2.2.1 = some x2 →
      x1.key = x2.key → e1.2.2 = true ∧ e2.2.2 = true := by
  induction up with
  | nil => intro e1 he1; simp at he1
  | cons a up ih =>
    unfold NoClash at h
    rw [List.pairwise_cons] at h
    intro e1 he1 e2 he2 hne x1 x2 hx1 hx2 hk
    rw [List.mem_cons] at he1 he2
    rcases he1 with rfl | he1 <;> rcases he2 with rfl | he2
    · exact absurd rfl hne
    · exact h.1 e2 he2 x1 x2 hx1 hx2 hk
    · exact (h.1 e1 he1 x2 x1 hx2 hx1 hk.symm).symm
    · exact ih h.2 e1 he1 e2 he2 hne x1 x2 hx1 hx2 hk

theorem clusters_keys_disjoint (up : List UpEntry) (h : NoClash up) (k : Key)
    (h1 : k ∈ (clustersOf up).retained.map (·.1.key)) : k ∉ (clustersOf up).dupl.map (·.1.key) := by
  intro h2
  rw [clusters_retained_pairs up h, mem_pairsOf_keys] at h1
  rw [clusters_dupl_keys] at h2
  obtain ⟨e1, he1, x1, hx1, hk1, hf1⟩ := h1
  obtain ⟨e2, he2, x2, hx2, hk2, hf2⟩ := h2
  have hne : e1 ≠ e2 := by
    intro heq
    subst heq
    rw [hf1] at hf2
    exact Bool.noConfusion hf2
  have := (h.of_ne e1 he1 e2 he2 hne x1 x2 hx1 hx2 (hk1.trans hk2.symm)).1
  rw [hf1] at this
  exact Bool.noConfusion this

theorem clusters_seen_iff (up : List UpEntry) (h : NoClash up) (k : Key) :
    k ∈ (clustersOf up).seen ↔
      k ∈ (clustersOf up).retained.map (·.1.key) ∨ k ∈ (clustersOf up).dupl.map (·.1.key) := by
  rw [clusters_seen, clusters_retained_pairs up h, clusters_dupl_keys, mem_pairsOf_keys, List.mem_filterMap]
  constructor
  · rintro ⟨e, he, hm⟩
    obtain ⟨x, hx, rfl⟩ := Option.map_eq_some_iff.1 hm
    cases hf : e.2.2
    · exact Or.inl ⟨e, he, x, hx, rfl, hf⟩
    · exact Or.inr ⟨e, he, x, hx, rfl, hf⟩
  · rintro (⟨e, he, x, hx, rfl, _⟩ | ⟨e, he, x, hx, rfl, _⟩)
    · exact ⟨e, he, by rw [hx]; rfl⟩
    · exact ⟨e, he, by rw [hx]; rfl⟩

theorem partition_perm (up : List UpEntry) :
    (up.filterMap (fun e => if e.2.1.isNone then some e.1 else none) ++
      (pairsOf false up).map (·.2) ++ (pairsOf true up).map (·.2)).Perm (up.map (·.1)) := by
  induction up with
  | nil => exact .refl _
  | cons e up ih =>
    rcases e with ⟨hy, _ | ho, _ | _⟩
    · exact ih.cons hy
    · exact ih.cons hy
    · refine List.Perm.trans ?_ (ih.cons hy)
      rw [List.append_assoc, List.append_assoc]
      exact List.perm_middle
    · exact List.perm_middle.trans (ih.cons hy)

/-- C05, descendant side, on the level of the upMap: every entry lands in exactly one of
    gained / retained (as a value) / duplicated (as a list member) -/
theorem clusters_partition (up : List UpEntry) (h : NoClash up) :
    ((clustersOf up).gain ++ (clustersOf up).retained.map (·.2) ++ (clustersOf up).dupl.flatMap (·.2)).Perm
      (up.map (·.1)) := by
  refine List.Perm.trans ?_ (partition_perm up)
  rw [clusters_gain, clusters_retained_pairs up h]
  exact (List.Perm.refl _).append (clusters_dupl_flat up)

theorem gain_count (up : List UpEntry) : (clustersOf up).gain.length = up.countP (fun e => !e.2.1.isSome) := by
  rw [clusters_gain, List.length_filterMap_eq_countP]
  exact congrArg (List.countP · up) (funext fun e => by cases e.2.1 <;> rfl)

theorem retained_count (up : List UpEntry) (hn : NoClash up) :
    (clustersOf up).retained.length = up.countP (fun e => e.2.1.isSome && !e.2.2) := by
  rw [clusters_retained_pairs up hn, length_pairsOf]
  exact congrArg (List.countP · up) (funext fun e => by cases e.2.2 <;> rfl)

theorem duplicated_count (up : List UpEntry) :
    ((clustersOf up).dupl.map (·.2.length)).sum = up.countP (fun e => e.2.1.isSome && e.2.2) := by
  rw [← List.length_flatMap, (clusters_dupl_flat up).length_eq, List.length_map, length_pairsOf]
  exact congrArg (List.countP · up) (funext fun e => by cases e.2.2 <;> rfl)

end Pyham
