/-
  The stack machine of `Model/Sax.lean` (one `start` / `end` call at a time, explicit `hog_stack`) run over the
  event stream of a document IS the recursive loader of `Model/Parser.lean`.

  Each simulation is one mutual induction over `Elem` / `List Elem` with the rest of the event stream as a parameter.
-/
import PyhamModel.Model.Sax
import PyhamModel.Lemmas.LoaderEqns
import PyhamModel.Lemmas.ExceptAll
namespace Pyham.Sax
open Except (bind_eq_bind_bind bind_ok_bind)

section
variable {env : Env} {flt : HogFilter} {e : Ev} {es : List Ev} {m m' : MS}

theorem runEvents_cons :
    runEvents env flt (e :: es) m = (step env flt m e).bind fun m' => runEvents env flt es m' := rfl

theorem runEvents_ok (h : step env flt m e = .ok m') : runEvents env flt (e :: es) m = runEvents env flt es m' :=
  runEvents_cons.trans (congrArg (fun x => Except.bind x _) h)

end

theorem runEvents_append (env : Env) (flt : HogFilter) (a b : List Ev) (m : MS) :
    runEvents env flt (a ++ b) m = (runEvents env flt a m).bind fun m' => runEvents env flt b m' := by
  induction a generalizing m with
  | nil => rfl
  | cons e es ih => exact bind_eq_bind_bind ih

section
variable {hid og pgid : Option String} {e : Elem} {es its : List Elem} {rest : List Ev}

theorem events_og :
    events (.og hid og its) ++ rest = .ogStart hid og :: (eventsL its ++ .ogEnd :: rest) :=
  congrArg (List.cons _) (List.append_assoc _ _ _)

theorem events_pg :
    events (.pg pgid its) ++ rest = .pgStart pgid :: (eventsL its ++ .pgEnd :: rest) :=
  congrArg (List.cons _) (List.append_assoc _ _ _)

theorem eventsL_cons : eventsL (e :: es) ++ rest = events e ++ (eventsL es ++ rest) :=
  List.append_assoc _ _ _

end

/-! ### skip mode: everything up to the matching end is ignored -/

mutual
theorem skip_elem (env : Env) (flt : HogFilter) : (e : Elem) → (k : Nat) → (tops : List Node) → (ps : PS) →
    (rest : List Ev) →
    runEvents env flt (events e ++ rest) { hstack := [], skip := k + 1, tops := tops, ps := ps } =
      runEvents env flt rest { hstack := [], skip := k + 1, tops := tops, ps := ps }
  | .ref _ _ => fun _ _ _ _ => rfl
  | .score _ _ => fun _ _ _ _ => rfl
  | .prop _ _ => fun _ _ _ _ => rfl
  | .og hid og its => fun k tops ps rest => by
    rw [events_og, runEvents_ok (m' := ⟨[], k + 2, tops, ps⟩) rfl, skip_elems env flt its]
    rfl
  | .pg pgid its => fun k tops ps rest => by
    rw [events_pg, runEvents_ok (m' := ⟨[], k + 1, tops, ps⟩) rfl, skip_elems env flt its]
    rfl
theorem skip_elems (env : Env) (flt : HogFilter) : (es : List Elem) → (k : Nat) → (tops : List Node) → (ps : PS) →
    (rest : List Ev) →
    runEvents env flt (eventsL es ++ rest) { hstack := [], skip := k + 1, tops := tops, ps := ps } =
      runEvents env flt rest { hstack := [], skip := k + 1, tops := tops, ps := ps }
  | [] => fun _ _ _ _ => rfl
  | e :: es => fun k tops ps rest => by
    rw [eventsL_cons, skip_elem env flt e, skip_elems env flt es]
end

section
variable {env : Env} {flt : HogFilter} {len : Nat} {hid og pgid : Option String} {e : Elem} {es its : List Elem}
  {hb : HogBuild} {st : List HogBuild} {tops : List Node} {ps : PS}

theorem step_ogStart : step env flt ⟨hb :: st, 0, tops, ps⟩ (.ogStart hid og) =
    .ok ⟨(openOg (st.length + 1) hid og ps).1 :: hb :: st, 0, tops, (openOg (st.length + 1) hid og ps).2⟩ := rfl

theorem step_ogStart_top : step env flt ⟨[], 0, tops, ps⟩ (.ogStart hid og) =
    (kept flt hid).bind fun keep =>
      if !keep then .ok ⟨[], 1, tops, ps⟩
      else .ok ⟨[(openOg 0 hid og ps).1], 0, tops, (openOg 0 hid og ps).2⟩ :=
  match flt, hid with
  | none, _ => rfl
  | some _, none => rfl
  | some ids, some i => by
    show (if ids.contains i = true then _ else _) = (if (!ids.contains i) = true then _ else _)
    cases ids.contains i <;> rfl

end

/-! ### inside an open group -/

mutual
theorem sax_elem (env : Env) (flt : HogFilter) : (e : Elem) → ∀ hb st tops ps rest,
    runEvents env flt (events e ++ rest) ⟨hb :: st, 0, tops, ps⟩ =
      (elem env (st.length + 1) e hb ps).bind fun r => runEvents env flt rest ⟨r.1 :: st, 0, tops, r.2⟩
  | .ref id loft => fun hb st tops ps rest => by
    rw [elem_ref]
    show (match env.lookupGene id with | none => _ | some t => _ : Except Err MS).bind _ = _
    cases env.lookupGene id <;> rfl
  | .score id v => fun hb st tops ps rest => rfl
  | .prop n v => fun hb st tops ps rest => rfl
  | .pg pgid its => fun hb st tops ps rest => by
    rw [events_pg, runEvents_ok (m' := ⟨hb :: st, 0, tops, pgOpen (st.length + 1) pgid ps⟩) rfl,
      sax_elems env flt its, elem_pg]
    refine bind_eq_bind_bind fun r => ?_
    exact bind_ok_bind fun _ => rfl
  | .og hid og its => fun hb st tops ps rest => by
    rw [events_og, runEvents_ok step_ogStart, sax_elems env flt its, elem_og]
    refine bind_eq_bind_bind fun r => ?_
    exact bind_ok_bind fun _ => rfl
theorem sax_elems (env : Env) (flt : HogFilter) : (es : List Elem) → ∀ hb st tops ps rest,
    runEvents env flt (eventsL es ++ rest) ⟨hb :: st, 0, tops, ps⟩ =
      (elems env (st.length + 1) es hb ps).bind fun r => runEvents env flt rest ⟨r.1 :: st, 0, tops, r.2⟩
  | [] => fun hb st tops ps rest => rfl
  | e :: es => fun hb st tops ps rest => by
    rw [eventsL_cons, sax_elem env flt e, elems_cons]
    exact bind_eq_bind_bind fun r => sax_elems env flt es r.1 st tops r.2 rest
end

/-! ### at the top of <groups> (empty stack) -/

mutual
theorem sax_topElem (env : Env) (flt : HogFilter) : (e : Elem) → (tops : List Node) → (ps : PS) → (rest : List Ev) →
    runEvents env flt (events e ++ rest) { hstack := [], skip := 0, tops := tops, ps := ps } =
      (topElem env flt e tops ps).bind fun r =>
        runEvents env flt rest { hstack := [], skip := 0, tops := r.1, ps := r.2 }
  | .ref id loft => fun tops ps rest => by
    show (match env.lookupGene id with | none => _ | some t => _ : Except Err MS).bind _ =
      (match env.lookupGene id with | none => _ | some t => _ : Except Err (List Node × PS)).bind _
    cases env.lookupGene id <;> rfl
  | .score id v => fun tops ps rest => rfl
  | .prop n v => fun tops ps rest => rfl
  | .pg pgid its => fun tops ps rest => by
    rw [events_pg, runEvents_ok (m' := ⟨[], 0, tops, pgOpen 0 pgid ps⟩) rfl, sax_topElems env flt its, topElem_pg]
    refine bind_eq_bind_bind fun r => ?_
    exact bind_ok_bind fun _ => rfl
  | .og hid og its => fun tops ps rest => by
    rw [events_og, runEvents_cons, step_ogStart_top, topElem_og]
    cases kept flt hid with
    | error err => rfl
    | ok keep =>
      cases keep with
      | false => exact (skip_elems env flt its 0 tops ps _).trans rfl
      | true =>
        refine (sax_elems env flt its _ [] tops _ _).trans (bind_eq_bind_bind fun r => ?_)
        exact bind_ok_bind fun _ => rfl
theorem sax_topElems (env : Env) (flt : HogFilter) : (es : List Elem) → ∀ tops ps rest,
    runEvents env flt (eventsL es ++ rest) ⟨[], 0, tops, ps⟩ =
      (topElems env flt es tops ps).bind fun r => runEvents env flt rest ⟨[], 0, r.1, r.2⟩
  | [] => fun tops ps rest => rfl
  | e :: es => fun tops ps rest => by
    rw [eventsL_cons, sax_topElem env flt e, topElems_cons]
    exact bind_eq_bind_bind fun r => sax_topElems env flt es r.1 r.2 rest
end

/-- the stack machine run over the events of the whole <groups> section ends, with an empty stack, in exactly the
    families and the parser state of the recursive loader -- or fails with the same exception -/
theorem sax_groups (env : Env) (flt : HogFilter) (groups : List Elem) :
    runEvents env flt (eventsL groups) {} =
      (topElems env flt groups [] {}).map fun r => { hstack := [], skip := 0, tops := r.1, ps := r.2 } := by
  have h := sax_topElems env flt groups [] {} []
  rw [List.append_nil] at h
  refine h.trans ?_
  cases topElems env flt groups [] {} <;> rfl

theorem buildHamSax_eq (T : STree) (nm : Naming) (inp : Input) (keep : String → Bool) (flt : HogFilter) :
    buildHamSax T nm inp keep flt = buildHam T nm inp keep flt := by
  unfold buildHamSax buildHam
  cases declareSpecies T nm keep inp.species [] with
  | error err => rfl
  | ok genes =>
    show (runEvents _ flt (eventsL inp.groups) {}).bind _ = (topElems _ flt inp.groups [] {}).bind _
    rw [sax_groups]
    cases topElems { T := T, nm := nm, geneTx := genes.reverse.map fun g => (g.id, g.tx) } flt inp.groups [] {} <;> rfl

/-! ### the trace the harness compares in lock step -/

theorem trace_cons {env : Env} {flt : HogFilter} {e : Ev} {es : List Ev} {m : MS} :
    trace env flt (e :: es) m =
      match step env flt m e with
      | .error err => ([], some err)
      | .ok m' => (m'.obs :: (trace env flt es m').1, (trace env flt es m').2) := rfl

theorem trace_end (env : Env) (flt : HogFilter) (es : List Ev) (m : MS) :
    (trace env flt es m).2 = (match runEvents env flt es m with | .ok _ => none | .error e => some e) := by
  induction es generalizing m with
  | nil => rfl
  | cons e es ih =>
    rw [trace_cons, runEvents_cons]
    cases step env flt m e with
    | error err => rfl
    | ok m' => exact ih m'

/-- as long as the run succeeds there is one observation per call, and the k-th is the observation of the state
    after the first k+1 calls -/
theorem trace_obs (env : Env) (flt : HogFilter) (es : List Ev) (m : MS) (k : Nat) (m' : MS)
    (h : runEvents env flt (es.take (k + 1)) m = .ok m') (hk : k < es.length) :
    (trace env flt es m).1[k]? = some m'.obs := by
  induction es generalizing m k with
  | nil => cases hk
  | cons e es ih =>
    rw [List.take_succ_cons, runEvents_cons] at h
    rw [trace_cons]
    revert h
    cases step env flt m e with
    | error err => exact fun h => nomatch h
    | ok m1 =>
      intro h
      cases k with
      | zero =>
        cases h
        rfl
      | succ k => exact ih m1 k h (Nat.lt_of_succ_lt_succ hk)

/-! ### the first pass of a filtered load -/
section
variable {f : Filter} {e : Ev} {es rest : List Ev} {s s' : FS}

theorem frun_cons : frun f (e :: es) s = (fstep f s e).bind fun s' => frun f es s' := rfl

theorem frun_ok (h : fstep f s e = .ok s') : frun f (e :: es) s = frun f es s' :=
  frun_cons.trans (congrArg (fun x => Except.bind x _) h)

/-- the state `f_elem` promises differs from the one the machine reaches by `++ []`, `|| false` and bracketing, which
    do not hold by unfolding; `hr`, `ha` are oriented as `List.append_nil` and `Bool.or_false` are -/
theorem frun_congr {gids hids : List String} {cur : Option String} {d : Nat} {refs refs' : List String}
    {add add' : Bool} (hr : refs' = refs) (ha : add' = add) :
    frun f rest ⟨gids, hids, cur, d, refs, add⟩ = frun f rest ⟨gids, hids, cur, d, refs', add'⟩ := by
  rw [hr, ha]

end

mutual
/-- inside an open group every call succeeds: references are collected, the flag is raised by a selected gene -/
theorem f_elem (f : Filter) : (e : Elem) → (gids hids : List String) → (cur : Option String) → (d : Nat) →
    (refs : List String) → (add : Bool) → (rest : List Ev) →
    frun f (events e ++ rest) { gids := gids, hids := hids, cur := cur, depth := d + 1, refs := refs, add := add } =
      frun f rest { gids := gids, hids := hids, cur := cur, depth := d + 1, refs := refs ++ refsOf e,
                    add := add || (refsOf e).any gids.contains }
  | .ref id loft => fun gids hids cur d refs add rest =>
    frun_congr (rest := rest) rfl (congrArg (add || ·) (Bool.or_false _))
  | .score _ _ => fun gids hids cur d refs add rest =>
    frun_congr (rest := rest) (List.append_nil refs) (Bool.or_false add)
  | .prop _ _ => fun gids hids cur d refs add rest =>
    frun_congr (rest := rest) (List.append_nil refs) (Bool.or_false add)
  | .pg pgid its => fun gids hids cur d refs add rest => by
    rw [events_pg, frun_ok (s' := ⟨gids, hids, cur, d + 1, refs, add⟩) rfl, f_elems f its]
    rfl
  | .og hid og its => fun gids hids cur d refs add rest => by
    rw [events_og, frun_ok (s' := ⟨gids, hids, cur, d + 2, refs, add⟩) rfl, f_elems f its]
    rfl
theorem f_elems (f : Filter) : (es : List Elem) → ∀ gids hids cur d refs add rest,
    frun f (eventsL es ++ rest) ⟨gids, hids, cur, d + 1, refs, add⟩ =
      frun f rest ⟨gids, hids, cur, d + 1, refs ++ refsOfL es, add || (refsOfL es).any gids.contains⟩
  | [] => fun gids hids cur d refs add rest =>
    frun_congr (rest := rest) (List.append_nil refs) (Bool.or_false add)
  | e :: es => fun gids hids cur d refs add rest => by
    rw [eventsL_cons, f_elem f e, f_elems f es]
    have ha : (add || (refsOf e ++ refsOfL es).any gids.contains) =
        (add || (refsOf e).any gids.contains || (refsOfL es).any gids.contains) := by
      rw [List.any_append, Bool.or_assoc]
    exact frun_congr (List.append_assoc ..).symm ha
end

mutual
theorem f_top (f : Filter) : (e : Elem) → (gids hids : List String) → (rest : List Ev) → noTopRef e = true →
    frun f (events e ++ rest) { gids := gids, hids := hids } =
      (filterTop f e (gids, hids)).bind fun r => frun f rest { gids := r.1, hids := r.2 }
  | .ref _ _ => fun gids hids rest h => by cases h
  | .score _ _ => fun gids hids rest _ => rfl
  | .prop _ _ => fun gids hids rest _ => rfl
  | .pg pgid its => fun gids hids rest h => by
    rw [events_pg, frun_ok (s' := ⟨gids, hids, none, 0, [], false⟩) rfl, f_tops f its gids hids _ h]
    rfl
  | .og none og its => fun gids hids rest _ => rfl
  | .og (some i) og its => fun gids hids rest _ => by
    rw [events_og, frun_ok (s' := ⟨gids, hids, some i, 1, [], f.hogIds.contains i⟩) rfl, f_elems f its, frun_cons,
      filterTop_og]
    cases f.hogIds.contains i || (refsOfL its).any gids.contains <;> rfl
theorem f_tops (f : Filter) : (es : List Elem) → ∀ gids hids rest, noTopRefL es = true →
    frun f (eventsL es ++ rest) { gids := gids, hids := hids } =
      (filterTops f es (gids, hids)).bind fun r => frun f rest { gids := r.1, hids := r.2 }
  | [] => fun gids hids rest _ => rfl
  | e :: es => fun gids hids rest h => by
    have h' : noTopRef e = true ∧ noTopRefL es = true := Bool.and_eq_true_iff.mp h
    rw [eventsL_cons, f_top f e gids hids _ h'.1, filterTops_cons]
    exact bind_eq_bind_bind fun r => f_tops f es r.1 r.2 rest h'.2
end

/-- the first-pass machine run over the events of the <groups> section selects exactly what the recursive first pass
    selects (gene ids and family ids, in the same order), and is back in its initial control state -/
theorem f_groups (f : Filter) (groups : List Elem) (gids : List String) (h : noTopRefL groups = true) :
    frun f (eventsL groups) { gids := gids } =
      (filterTops f groups (gids, [])).map fun r => { gids := r.1, hids := r.2 } := by
  have h0 := f_tops f groups gids [] [] h
  rw [List.append_nil] at h0
  rw [h0]
  cases filterTops f groups (gids, []) <;> rfl

/-! ### the whole document -/

section
variable {T : STree} {nm : Naming} {keep : String → Bool} {flt : HogFilter} {e : DocEv} {es : List DocEv} {d d' : DS}

theorem drun_cons :
    drun T nm keep flt (e :: es) d = (dstep T nm keep flt d e).bind fun d' => drun T nm keep flt es d' := rfl

theorem drun_ok (h : dstep T nm keep flt d e = .ok d') : drun T nm keep flt (e :: es) d = drun T nm keep flt es d' :=
  drun_cons.trans (congrArg (fun x => Except.bind x _) h)

end

section
variable (T : STree) (nm : Naming) (keep : String → Bool) (flt : HogFilter)

/-- the <gene> elements of one species -/
theorem drun_genes (name : String) (p : Taxon) (gs : List GeneDecl) (G S M rest) :
    drun T nm keep flt (gs.map .gene ++ rest) { cur := some (name, p), genes := G, species := S, ms := M } =
      drun T nm keep flt rest { cur := some (name, p), genes := G ++ (gs.filter fun g => keep g.id).map (fun g =>
        ({ id := g.id, species := name, tx := p, xrefs := g.xrefs } : GeneRec)), species := S, ms := M } := by
  induction gs generalizing G with
  | nil =>
    show _ = drun T nm keep flt rest ⟨_, G ++ [], S, M⟩
    rw [List.append_nil]
    rfl
  | cons g gs ih =>
    show (if keep g.id = true then _ else _ : Except Err DS).bind _ = _
    rw [List.filter_cons]
    cases keep g.id with
    | false => exact ih G
    | true =>
      refine (ih _).trans ?_
      rw [List.append_assoc]
      rfl

/-- the species the document declares, with the leaves they resolve to: `DS.species` after the species sections -/
def resolved (T : STree) (nm : Naming) : List Species → List (String × Taxon)
  | [] => []
  | s :: ss => (match resolveSpecies T nm s.name with | .ok p => [(s.name, p)] | .error _ => []) ++ resolved T nm ss

theorem resolved_cons (s : Species) (ss : List Species) :
    resolved T nm (s :: ss) =
      (match resolveSpecies T nm s.name with | .ok p => [(s.name, p)] | .error _ => []) ++ resolved T nm ss := rfl

theorem spEvents_cons (s : Species) (ss : List Species) (rest : List DocEv) :
    spEvents (s :: ss) ++ rest = .spStart s.name :: (s.genes.map .gene ++ .spEnd :: (spEvents ss ++ rest)) := by
  show ((_ :: (_ ++ [_])) ++ _) ++ rest = _
  rw [List.append_assoc, List.cons_append, List.append_assoc]
  rfl

/-- the species sections: the declarations of `declareSpecies`, in file order -/
theorem drun_species (ss : List Species) (G S M rest) :
    drun T nm keep flt (spEvents ss ++ rest) { cur := none, genes := G, species := S, ms := M } =
      (declareSpecies T nm keep ss G).bind fun genes =>
        drun T nm keep flt rest { cur := none, genes := genes, species := S ++ resolved T nm ss, ms := M } := by
  induction ss generalizing G S with
  | nil =>
    show _ = drun T nm keep flt rest ⟨none, G, S ++ [], M⟩
    rw [List.append_nil]
    rfl
  | cons s ss ih =>
    rw [spEvents_cons, drun_cons, declareSpecies_cons, resolved_cons]
    show ((resolveSpecies T nm s.name).bind _).bind _ = _
    cases resolveSpecies T nm s.name with
    | error e => rfl
    | ok p =>
      refine (drun_genes T nm keep flt s.name p s.genes _ _ M _).trans ?_
      refine (drun_ok (d' := ⟨none, _, _, M⟩) rfl).trans ?_
      refine (ih _ _).trans ?_
      rw [List.append_assoc]
      rfl

/-- the groups section: the declarations do not change, so the environment is fixed -/
theorem drun_groups (es : List Ev) (c G S M rest) :
    drun T nm keep flt (es.map .grp ++ rest) { cur := c, genes := G, species := S, ms := M } =
      (runEvents { T := T, nm := nm, geneTx := G.reverse.map fun g => (g.id, g.tx) } flt es M).bind fun ms =>
        drun T nm keep flt rest { cur := c, genes := G, species := S, ms := ms } := by
  induction es generalizing M with
  | nil => rfl
  | cons e es ih =>
    show ((step (DS.env T nm ⟨c, G, S, M⟩) flt M e).bind _).bind _ =
      ((step (DS.env T nm ⟨c, G, S, M⟩) flt M e).bind _).bind _
    cases step (DS.env T nm ⟨c, G, S, M⟩) flt M e with
    | error err => rfl
    | ok ms => exact ih ms

theorem declared_resolved (ss : List Species) (acc genes : List GeneRec)
    (h : declareSpecies T nm keep ss acc = .ok genes) :
    ss.mapM (fun s => (resolveSpecies T nm s.name).map fun p => (s.name, p)) = .ok (resolved T nm ss) := by
  induction ss generalizing acc with
  | nil => rfl
  | cons s ss ih =>
    rw [declareSpecies_cons] at h
    rw [List.mapM_cons, resolved_cons]
    revert h
    cases resolveSpecies T nm s.name with
    | error e => exact fun h => nomatch h
    | ok p =>
      intro h
      rw [ih _ h]
      rfl

end

theorem dstates_end (T : STree) (nm : Naming) (keep : String → Bool) (flt : HogFilter) (es : List DocEv) (d : DS) :
    (dstates T nm keep flt es d).2 = (match drun T nm keep flt es d with | .ok _ => none | .error e => some e) := by
  induction es generalizing d with
  | nil => rfl
  | cons e es ih =>
    rw [drun_cons]
    show (match dstep T nm keep flt d e with | .error err => _ | .ok d' => _ : List DS × Option Err).2 = _
    cases dstep T nm keep flt d e with
    | error err => rfl
    | ok d' => exact ih d'

/-- **the document machine is the load**: every declaration and every call in the order of the file (species sections,
    then the groups section), each geneRef resolved against the declarations read so far, ends in the analysis
    `buildHam` returns (any filter), or fails with the same exception -/
theorem doc_machine_is_load (T : STree) (nm : Naming) (inp : Input) (keep : String → Bool) (flt : HogFilter) :
    (drun T nm keep flt (spEvents inp.species ++ (eventsL inp.groups).map .grp) {}).map (DS.ham T nm) =
      buildHam T nm inp keep flt := by
  refine (congrArg _ (drun_species T nm keep flt inp.species [] [] {} _)).trans ?_
  unfold buildHam
  cases hd : declareSpecies T nm keep inp.species [] with
  | error e => rfl
  | ok genes =>
    have h2 := drun_groups T nm keep flt (eventsL inp.groups) none genes ([] ++ resolved T nm inp.species) {} []
    rw [List.append_nil, sax_groups] at h2
    show (drun T nm keep flt _ _).map _ = _
    rw [h2]
    show _ = (topElems _ flt inp.groups [] {}).bind _
    cases topElems { T := T, nm := nm, geneTx := genes.reverse.map fun g => (g.id, g.tx) } flt inp.groups [] {} with
    | error e => rfl
    | ok r =>
      show _ = Except.bind (inp.species.mapM _) _
      rw [declared_resolved T nm keep inp.species [] genes hd]
      rfl

/-! ### the first pass over the whole document -/

theorem fdrun_genes (f : Filter) (gs : List GeneDecl) (s : FS) (rest : List DocEv) :
    fdrun f (gs.map .gene ++ rest) s = fdrun f rest { s with gids := s.gids ++ gs.flatMap (geneSel f) } := by
  induction gs generalizing s with
  | nil =>
    show _ = fdrun f rest { s with gids := s.gids ++ [] }
    rw [List.append_nil]
    rfl
  | cons g gs ih =>
    refine (ih _).trans ?_
    rw [List.flatMap_cons, ← List.append_assoc]

theorem filterGenes_cons (f : Filter) (s : Species) (ss : List Species) :
    filterGenes f (s :: ss) = s.genes.flatMap (geneSel f) ++ filterGenes f ss :=
  List.flatMap_cons

theorem fdrun_species (f : Filter) (ss : List Species) (s : FS) (rest : List DocEv) :
    fdrun f (spEvents ss ++ rest) s = fdrun f rest { s with gids := s.gids ++ filterGenes f ss } := by
  induction ss generalizing s with
  | nil =>
    show _ = fdrun f rest { s with gids := s.gids ++ [] }
    rw [List.append_nil]
    rfl
  | cons sp ss ih =>
    rw [spEvents_cons]
    refine (fdrun_genes f sp.genes s _).trans ?_
    refine (ih _).trans ?_
    rw [filterGenes_cons, ← List.append_assoc]

theorem fdrun_groups (f : Filter) (es : List Ev) (s : FS) : fdrun f (es.map .grp) s = frun f es s := by
  induction es generalizing s with
  | nil => rfl
  | cons e es ih =>
    show (fstep f s e).bind _ = (fstep f s e).bind _
    cases fstep f s e with
    | error err => rfl
    | ok s' => exact ih s'

/-- the first pass over the whole document (species sections, then groups) selects what the recursive first pass
    selects -/
theorem f_document (f : Filter) (inp : Input) (h : noTopRefL inp.groups = true) :
    fdrun f (spEvents inp.species ++ (eventsL inp.groups).map .grp) { gids := [] } =
      (filterTops f inp.groups (filterGenes f inp.species, [])).map fun r => { gids := r.1, hids := r.2 } := by
  rw [fdrun_species, fdrun_groups]
  exact f_groups f inp.groups (filterGenes f inp.species) h

end Pyham.Sax
