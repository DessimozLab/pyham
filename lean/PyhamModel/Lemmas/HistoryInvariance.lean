/-
  The history-level counts do not depend on the spelling (`SameL`): order of sub-branches and copies, ids, labels,
  annotations, written / elided.  With `C09_profile_from_histories` this gives the whole-file statement of C14 for the tree
  profile: two consistent files that spell the same histories have the same profile entry at every ancestral node.
-/
import PyhamModel.Lemmas.HistoryProfile
import PyhamModel.Lemmas.Spelling
namespace Pyham

def weightFold (w : Nat → Nat) (t : Taxon) : HFold Unit where
  F q _ l := dupWeight w t q l
  FS q _ subs := dupWeightSubs w t q subs
  FC q _ cs := dupWeightCopies w t q cs
  here _ _ _ := 0
  down _ s := s
  sub s _ := s
  ev q _ n := if q == t then w n else 0
  grp _ _ _ _ _ _ := by simp only [dupWeight, Nat.zero_add]
  nil _ _ := rfl
  one _ _ _ _ _ := rfl
  dup _ _ _ _ _ _ := rfl
  ann _ _ _ _ := rfl
  cnil _ _ := rfl
  ccons _ _ _ _ := rfl

theorem sameL_weight (w : Nat → Nat) (t : Taxon) : ∀ {l l' : SL}, SameL l l' → ∀ q, dupWeight w t q l = dupWeight w t q l' :=
  fun h q => (weightFold w t).same (fun _ _ _ _ _ => rfl) h q ()

theorem sameSubs_weight (w : Nat → Nat) (t : Taxon) : ∀ {a b : List Sub}, SameSubs a b →
    ∀ q, dupWeightSubs w t q a = dupWeightSubs w t q b :=
  fun h q => (weightFold w t).sameSubs (fun _ _ _ _ _ => rfl) h q ()

theorem sameCopies_weight (w : Nat → Nat) (t : Taxon) : ∀ {a b : List SL}, SameCopies a b →
    ∀ q, dupWeightCopies w t q a = dupWeightCopies w t q b :=
  fun h q => (weightFold w t).sameCopies (fun _ _ _ _ _ => rfl) h q ()

theorem sameL_lineages (t : Taxon) : ∀ {l l' : SL}, SameL l l' → ∀ q, lineagesAt t q l = lineagesAt t q l' :=
  fun h q => (lineageFold t).same (fun _ _ _ _ _ => rfl) h q ()

theorem sameSubs_lineages (t : Taxon) : ∀ {a b : List Sub}, SameSubs a b →
    ∀ q, lineagesAtSubs t q a = lineagesAtSubs t q b :=
  fun h q => (lineageFold t).sameSubs (fun _ _ _ _ _ => rfl) h q ()

theorem sameCopies_lineages (t : Taxon) : ∀ {a b : List SL}, SameCopies a b →
    ∀ q, lineagesAtCopies t q a = lineagesAtCopies t q b :=
  fun h q => (lineageFold t).sameCopies (fun _ _ _ _ _ => rfl) h q ()

def geneFold (g : String) : HFold Unit where
  F _ _ l := (genesOf l).count g
  FS _ _ subs := (genesOfSubs subs).count g
  FC _ _ cs := (genesOfCopies cs).count g
  here _ _ _ := 0
  down _ s := s
  sub s _ := s
  ev _ _ _ := 0
  grp _ _ _ _ _ _ := by simp only [genesOf, Nat.zero_add]
  nil _ _ := rfl
  one _ _ _ _ _ := by simp only [genesOfSubs, List.count_append]
  dup _ _ _ _ _ _ := by simp only [genesOfSubs, List.count_append, Nat.zero_add]
  ann _ _ _ _ := rfl
  cnil _ _ := rfl
  ccons _ _ _ _ := by simp only [genesOfCopies, List.count_append]

theorem sameL_genes {l l' : SL} (h : SameL l l') : (genesOf l).Perm (genesOf l') :=
  List.perm_iff_count.mpr fun g => (geneFold g).same (fun _ _ _ _ _ => rfl) h [] ()

/-! ### from one family to the dataset -/

theorem sum_fams_same (A B : List (Taxon × SL)) (hlen : A.length = B.length)
    (hs : ∀ i (h1 : i < A.length) (h2 : i < B.length), (A[i]).1 = (B[i]).1 ∧ SameL (A[i]).2 (B[i]).2)
    (g : Taxon → SL → Nat) (hg : ∀ {l l' : SL}, SameL l l' → ∀ q, g q l = g q l') :
    (A.map fun f => g f.1 f.2).sum = (B.map fun f => g f.1 f.2).sum := by
  rw [map_eq_of_index (fun f => g f.1 f.2) (fun f => g f.1 f.2) A B hlen (fun i h1 h2 => by
    obtain ⟨hq, hsl⟩ := hs i h1 h2
    rw [hq, hg hsl])]

theorem profile_terms_same (A B : List (Taxon × SL)) (hlen : A.length = B.length)
    (hs : ∀ i (h1 : i < A.length) (h2 : i < B.length), (A[i]).1 = (B[i]).1 ∧ SameL (A[i]).2 (B[i]).2) (t : Taxon) :
    (∀ u, (A.map fun f => lineagesAt u f.1 f.2).sum = (B.map fun f => lineagesAt u f.1 f.2).sum) ∧
    (A.map fun f => copiesInto t f.1 f.2).sum = (B.map fun f => copiesInto t f.1 f.2).sum ∧
    (A.map fun f => copiesInto t f.1 f.2 - eventsInto t f.1 f.2).sum =
      (B.map fun f => copiesInto t f.1 f.2 - eventsInto t f.1 f.2).sum ∧
    (A.filter fun f => f.1 == t).length = (B.filter fun f => f.1 == t).length :=
  ⟨fun u => sum_fams_same A B hlen hs (lineagesAt u) (sameL_lineages u),
    sum_fams_same A B hlen hs (copiesInto t) (sameL_weight id t),
    sum_fams_same A B hlen hs (fun q l => copiesInto t q l - eventsInto t q l) (fun h q => by
      unfold copiesInto eventsInto
      rw [sameL_weight id t h q, sameL_weight (fun _ => 1) t h q]),
    length_filter_of_index _ _ A B hlen (fun j h1 h2 => by rw [(hs j h1 h2).1])⟩

theorem balance_unique {n c g p e ret lost ret' lost' : Nat} (b1 : n = ret + c + g) (b2 : n + lost = p + g + e)
    (b1' : n = ret' + c + g) (b2' : n + lost' = p + g + e) : ret = ret' ∧ lost = lost' :=
  ⟨Nat.add_right_cancel (Nat.add_right_cancel (b1.symm.trans b1')), Nat.add_left_cancel (b2.trans b2'.symm)⟩

/-- **C14 for the tree profile, whole files**: two consistent datasets over one species tree whose families are spellings of
    the same histories (members, copies and sub-branches in any order, other ids, with or without labels and annotations,
    levels written or elided, either naming mode) have the same whole-dataset tree profile entry at every ancestral node -/
theorem C14_profile_same_for_same_histories (D D' : Dataset) (hc : D.Consistent) (hc' : D'.Consistent)
    (hT : D.T = D'.T) (hlen : D.fams.length = D'.fams.length)
    (hs : ∀ i (h1 : i < D.fams.length) (h2 : i < D'.fams.length),
        (D.fams[i]).1 = (D'.fams[i]).1 ∧ SameL (D.fams[i]).2 (D'.fams[i]).2) :
    ∃ H H', load D.T D.nm D.file = .ok H ∧ load D'.T D'.nm D'.file = .ok H' ∧
      ∀ i u, (i :: u) ∈ D.T.allTaxa → D.T.isInternalAt (i :: u) = true →
        profileFullAt H (i :: u) = profileFullAt H' (i :: u) := by
  obtain ⟨H, hl, hp⟩ := C09_profile_from_histories D hc
  obtain ⟨H', hl', hp'⟩ := C09_profile_from_histories D' hc'
  refine ⟨H, H', hl, hl', ?_⟩
  intro i u ht hint
  have ht' : (i :: u) ∈ H'.tree.allTaxa := by
    rw [(load_tree_genes _ _ _ _ hl').1, ← hT]
    exact ht
  obtain ⟨ret, lost, e, b1, b2⟩ := hp i u ((load_tree_genes _ _ _ _ hl).1 ▸ ht) hint
  obtain ⟨ret', lost', e', b1', b2'⟩ := hp' i u ht' (hT ▸ hint)
  obtain ⟨eL, eC, eE, eG⟩ := profile_terms_same D.fams D'.fams hlen hs (i :: u)
  rw [eL (i :: u), eC, eG] at b1
  rw [eL (i :: u), eL u, eG, eE] at b2
  obtain ⟨hret, hlost⟩ := balance_unique b1 b2 b1' b2'
  rw [e, e', eL (i :: u), eC, eG, eE, hret, hlost]

end Pyham
